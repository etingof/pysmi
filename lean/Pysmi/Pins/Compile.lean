import Pysmi.Model.Compile
import Pysmi.Generated.Compile
/-!
# Pins: the skeleton of `MibCompiler.compile()` the model was written against

`Generated/Compile.lean` is rewritten from `pysmi/compiler.py` on every run: the six status constants, and - in source
order - every assignment of a status to `processed[...]`, every call of a component (`getData`, `parse`, `genCode`,
`fileExists`, `putData`), every `del` on the working dictionaries and every `return` of `compile()`.  The hand-written
model (`Model/Compile.lean`) has one phase per loop of that skeleton; a change of the source that adds, drops or moves
one of these breaks the pin, and the check then searches the model and the code for a failing input.
-/
namespace Pysmi.Pins.Compile
open Pysmi.Generated.Compile

/-- the documented statuses are exactly the constructors of the model's `Status` -/
theorem pin_statuses :
    statusConsts.map (·.2) = ["compiled", "untouched", "failed", "unprocessed", "missing", "borrowed"] := rfl

theorem pin_skeleton : skeleton = [
    -- phase 1: discovery (`trySources`, `symTrees`, `registerTree`/`clearStale`, `failSource`, the missing branch)
    "call:source.getData", "call:self._parser.parse", "call:self._symbolgen.genCode", "del:failedMibs",
    "status:statusFailed", "status:statusMissing",
    -- phase 2: `needStep`
    "call:searcher.fileExists", "del:parsedMibs", "status:statusUntouched", "del:parsedMibs", "status:statusUntouched",
    -- phase 3: `genStep`
    "call:self._codegen.genCode", "del:parsedMibs", "status:statusFailed", "del:parsedMibs",
    -- phase 4: `borrowStep`
    "call:borrower.getData", "del:failedMibs",
    -- phase 5: `needBorrowStep`
    "call:searcher.fileExists", "del:borrowedMibs", "status:statusUntouched", "status:statusUntouched",
    "status:statusBorrowed", "del:borrowedMibs",
    -- the gate: `markUnprocessed`
    "status:statusUnprocessed", "return",
    -- phase 6: `storeStep`
    "call:self._writer.putData", "del:builtMibs", "status:statusCompiled", "status:statusFailed", "del:builtMibs",
    "return"] := rfl

end Pysmi.Pins.Compile
