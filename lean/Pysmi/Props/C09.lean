import Pysmi.Lemmas.Store
/-!
# C09 — nothing is written when any module fails, unless errors are ignored

Full statement: for every configuration of component outcomes, every import graph and every
option set, if after borrowing some module is still failed and `ignoreErrors` is off, the
writer is never called and every built module is reported `unprocessed`; with
`ignoreErrors` (or no failure) every built module is handed to the writer exactly once.

-/
namespace Pysmi.Compile
open Pysmi

/-- Phases 1–5 never call the writer. -/
theorem C09_no_put_before_gate (c : Cfg) (req : List Name) (o : Opts) (fuel : Nat) (s : St)
    (h : beforeGate c req o fuel = some s) : ∀ x ∈ s.trace, x.isPut = false :=
  (inv_beforeGate c req o fuel s h).noPut

/-- **C09_gate**: a failure that survives borrowing, with errors not ignored ⇒ no writer call at
all and every built module `unprocessed`. -/
theorem C09_gate (c : Cfg) (req : List Name) (o : Opts) (fuel : Nat) (s : St)
    (hs : beforeGate c req o fuel = some s) (hf : s.failed.isEmpty = false)
    (hi : o.ignoreErrors = false) :
    ∃ out, run c req o fuel = some out ∧ (∀ x ∈ out.trace, x.isPut = false) ∧
      ∀ n ∈ s.built.keys, out.processed.get? n = some { st := .unprocessed } := by
  refine ⟨_, run_eq hs, ?_⟩
  rw [afterGate_stop hf hi]
  exact ⟨C09_no_put_before_gate c req o fuel s hs, markUnprocessed_get s⟩

/-- **C09_store_calls**: when the gate is passed (errors ignored, or nothing failed), the
writer calls of the whole run are exactly one `put` per built module, in order, carrying that
module's text (none at all with `writeMibs = False`). -/
theorem C09_store_calls (c : Cfg) (req : List Name) (o : Opts) (fuel : Nat) (s : St)
    (hs : beforeGate c req o fuel = some s) (hpass : s.failed.isEmpty = true ∨ o.ignoreErrors = true) :
    ∃ out, run c req o fuel = some out ∧ out.trace = s.trace ++ putCalls o s.built := by
  refine ⟨_, run_eq hs, ?_⟩
  rw [afterGate_pass hpass]
  exact phaseStore_trace c o s

/-- **C09_store_status**: when the gate is passed every built module ends with the status the
store step gives it: `failed` (carrying the writer error) if the writer raised, else its earlier
status if it had one (`borrowed`), else `compiled`. -/
theorem C09_store_status (c : Cfg) (req : List Name) (o : Opts) (fuel : Nat) (s : St)
    (hs : beforeGate c req o fuel = some s) (hpass : s.failed.isEmpty = true ∨ o.ignoreErrors = true)
    (n alias : Name) (mtime : Int) (data : Nat) (hm : (n, alias, mtime, data) ∈ s.built) :
    ∃ out, run c req o fuel = some out ∧
      out.processed.get? n = storedEntry c o (s.processed.get? n) n alias data := by
  refine ⟨_, run_eq hs, ?_⟩
  rw [afterGate_pass hpass]
  exact phaseStore_status c o s (inv_beforeGate c req o fuel s hs).builtNodup hm

/-! ### non-vacuity: a concrete run that is stopped at the gate, and one that passes it -/

/-- two modules 0 → 1, module 1 missing everywhere -/
def exCfg : Cfg :=
  { sources := [fun n => if n = 0 then .ok 0 10 1 else .notFound]
    parse := fun _ => .trees [1]
    sym := fun _ => .ok 0 [1]
    gen := fun t _ => .ok (1000 + t)
    searchers := [], borrowers := [], put := fun _ _ _ => true }

example : ((beforeGate exCfg [0] {} 10).map (fun s => (s.failed.keys, s.built.keys))) = some ([1], [0]) := by
  decide +kernel
example : ((run exCfg [0] {} 10).map (fun out => out.processed.map (fun e => (e.1, e.2.st)))) =
    some [(1, .missing), (0, .unprocessed)] := by decide +kernel
example : ((run exCfg [0] { ignoreErrors := true } 10).map (fun out => (out.processed.map (fun e => (e.1, e.2.st)),
    out.trace.filter Call.isPut))) = some ([(1, .missing), (0, .compiled)], [.put 0 1001 false]) := by
  decide +kernel

end Pysmi.Compile
