import Pysmi.Model.Index
import Pysmi.Lemmas.AList
import Pysmi.Lemmas.List
/-! The sections of the index as dictionaries `List (κ × List μ)`: which modules are `Listed` under a key, which keys
there are (`HasKey`) and that they are distinct (`KeysNodup`), through `appendAt`, the accumulation loop, the stable sort
and the compaction loop. -/
namespace Pysmi.Index
set_option linter.unusedSectionVars false

variable {κ μ : Type} [DecidableEq κ] [DecidableEq μ]

/-- module `m` is listed under key `k` -/
def Listed (d : List (κ × List μ)) (m : μ) (k : κ) : Prop :=
  ∃ mods, (k, mods) ∈ d ∧ m ∈ mods

/-- some key related to `o` by `pref` lists `m` -/
def Covers (pref : κ → κ → Bool) (d : List (κ × List μ)) (m : μ) (o : κ) : Prop :=
  ∃ k, pref k o = true ∧ Listed d m k

def HasKey (d : List (κ × List μ)) (k : κ) : Prop := ∃ v, (k, v) ∈ d
def KeysNodup (d : List (κ × List μ)) : Prop := (d.map Prod.fst).Nodup

def Cov (pref : κ → κ → Bool) (e' e : κ × List μ) : Prop := pref e'.1 e.1 = true ∧ ∀ x ∈ e.2, x ∈ e'.2

theorem listed_nil (m : μ) (k : κ) : ¬ Listed ([] : List (κ × List μ)) m k := by
  simp [Listed]

theorem listed_cons (k' : κ) (v : List μ) (d : List (κ × List μ)) (m : μ) (k : κ) :
    Listed ((k', v) :: d) m k ↔ (k = k' ∧ m ∈ v) ∨ Listed d m k := by
  simp [Listed, or_and_right, exists_or, and_assoc]

theorem hasKey_iff (d : List (κ × List μ)) (k : κ) : HasKey d k ↔ k ∈ d.map Prod.fst := by
  simp [HasKey]

theorem hasKey_mono {c d : List (κ × List μ)} (hc : c ⊆ d) {k : κ} : HasKey c k → HasKey d k :=
  fun ⟨v, hv⟩ => ⟨v, hc hv⟩

theorem listed_mono {c d : List (κ × List μ)} (hc : c ⊆ d) {x : μ} {k : κ} : Listed c x k → Listed d x k :=
  fun ⟨v, hv, hx⟩ => ⟨v, hc hv, hx⟩

theorem mem_iff_listed {d : List (κ × List μ)} (h : KeysNodup d) {k : κ} {v : List μ} (hv : (k, v) ∈ d) {x : μ} :
    x ∈ v ↔ Listed d x k :=
  ⟨fun hx => ⟨v, hv, hx⟩, fun ⟨_, hw, hx⟩ => (Prod.mk.inj (eq_of_nodup_map h hv hw rfl)).2 ▸ hx⟩

theorem listed_of_subset {c d : List (κ × List μ)} (hc : c ⊆ d) (h : KeysNodup d) {x : μ} {k : κ} :
    Listed c x k ↔ HasKey c k ∧ Listed d x k :=
  ⟨fun ⟨v, hv, hx⟩ => ⟨⟨v, hv⟩, v, hc hv, hx⟩,
   fun ⟨⟨v, hv⟩, hl⟩ => ⟨v, hv, (mem_iff_listed h (hc hv)).mpr hl⟩⟩

theorem listed_appendAt (d : List (κ × List μ)) (k : κ) (m x : μ) (k0 : κ) :
    Listed (appendAt d k m) x k0 ↔ Listed d x k0 ∨ (k0 = k ∧ x = m) := by
  induction d with
  | nil => simp [appendAt, listed_cons, listed_nil]
  | cons e rest ih =>
    obtain ⟨k', v⟩ := e
    unfold appendAt
    by_cases h : k' = k
    · subst h; simp [listed_cons, and_or_left, or_assoc, or_comm]
    · simp [h, listed_cons, ih, or_assoc]

/-- `appendAt` is the dictionary update `d[k] = d.get(k, []) + [m]` -/
theorem appendAt_eq_set (d : List (κ × List μ)) (k : κ) (m : μ) :
    appendAt d k m = AList.set d k ((lookup d k).getD [] ++ [m]) := by
  induction d with
  | nil => rfl
  | cons e rest ih =>
    obtain ⟨k', v⟩ := e
    unfold appendAt AList.set lookup
    by_cases h : k' = k
    · simp [h]
    · simp [h, ih]

theorem hasKey_appendAt (d : List (κ × List μ)) (k0 : κ) (m : μ) (k : κ) :
    HasKey (appendAt d k0 m) k ↔ HasKey d k ∨ k = k0 := by
  rw [appendAt_eq_set, hasKey_iff, hasKey_iff, or_comm]; exact AList.mem_keys_set d k0 k _

theorem keysNodup_appendAt {d : List (κ × List μ)} (k : κ) (m : μ) (h : KeysNodup d) : KeysNodup (appendAt d k m) := by
  rw [appendAt_eq_set]; exact AList.nodup_keys_set h

theorem listed_addAll (ks : List κ) (m : μ) (d : List (κ × List μ)) (x : μ) (k0 : κ) :
    Listed (addAll d ks m) x k0 ↔ Listed d x k0 ∨ (k0 ∈ ks ∧ x = m) := by
  induction ks generalizing d with
  | nil => simp [addAll]
  | cons k ks ih =>
    show Listed (addAll (appendAt d k m) ks m) x k0 ↔ _
    rw [ih, listed_appendAt, List.mem_cons, or_and_right, or_assoc]

theorem hasKey_addAll (ks : List κ) (m : μ) (d : List (κ × List μ)) (k : κ) :
    HasKey (addAll d ks m) k ↔ HasKey d k ∨ k ∈ ks := by
  induction ks generalizing d with
  | nil => simp [addAll]
  | cons k0 ks ih =>
    show HasKey (addAll (appendAt d k0 m) ks m) k ↔ _
    rw [ih, hasKey_appendAt, List.mem_cons, or_assoc]

theorem keysNodup_addAll (ks : List κ) (m : μ) {d : List (κ × List μ)} (h : KeysNodup d) : KeysNodup (addAll d ks m) :=
  List.foldlRecOn ks _ h fun _ hd k _ => keysNodup_appendAt k m hd

theorem addOpt_eq_addAll (d : List (κ × List μ)) (k : Option κ) (m : μ) : addOpt d k m = addAll d k.toList m := by
  cases k <;> rfl

/-- `stepModule` extends the section `sec` of the index by the keys `keys` of the summary -/
def FilledFrom (sec : Idx κ μ → List (κ × List μ)) (keys : Summary κ → List κ) : Prop :=
  ∀ (ix : Idx κ μ) (e : μ × Summary κ), sec (stepModule ix e) = addAll (sec ix) (keys e.2) e.1

theorem filled_identity : FilledFrom (κ := κ) (μ := μ) Idx.identity (fun s => s.identity.toList) :=
  fun ix e => addOpt_eq_addAll ix.identity e.2.identity e.1
theorem filled_enterprise : FilledFrom (κ := κ) (μ := μ) Idx.enterprise (fun s => s.enterprise.toList) :=
  fun ix e => addOpt_eq_addAll ix.enterprise e.2.enterprise e.1
theorem filled_compliance : FilledFrom (κ := κ) (μ := μ) Idx.compliance Summary.compliance := fun _ _ => rfl
theorem filled_oids : FilledFrom (κ := κ) (μ := μ) Idx.oids Summary.oids := fun _ _ => rfl

section
variable {sec : Idx κ μ → List (κ × List μ)} {keys : Summary κ → List κ} (hf : FilledFrom sec keys)
include hf

theorem listed_addModules {ms : List (μ × Summary κ)} {old : Idx κ μ} {x : μ} {k : κ} :
    Listed (sec (addModules old ms)) x k ↔ Listed (sec old) x k ∨ ∃ s, (x, s) ∈ ms ∧ k ∈ keys s := by
  induction ms generalizing old with
  | nil => simp [addModules]
  | cons e ms ih =>
    show Listed (sec (addModules (stepModule old e) ms)) x k ↔ _
    rw [ih, hf, listed_addAll, or_assoc]
    refine or_congr_right ⟨?_, ?_⟩
    · rintro (⟨hk, rfl⟩ | ⟨s, hs, hk⟩)
      · exact ⟨e.2, List.mem_cons_self, hk⟩
      · exact ⟨s, List.mem_cons_of_mem _ hs, hk⟩
    · rintro ⟨s, hs, hk⟩
      rcases List.mem_cons.mp hs with rfl | hs
      · exact Or.inl ⟨hk, rfl⟩
      · exact Or.inr ⟨s, hs, hk⟩

theorem hasKey_addModules {ms : List (μ × Summary κ)} {old : Idx κ μ} {k : κ} :
    HasKey (sec (addModules old ms)) k ↔ HasKey (sec old) k ∨ ∃ e ∈ ms, k ∈ keys e.2 := by
  induction ms generalizing old with
  | nil => simp [addModules]
  | cons e ms ih =>
    show HasKey (sec (addModules (stepModule old e) ms)) k ↔ _
    rw [ih, hf, hasKey_addAll, or_assoc]
    simp only [List.mem_cons, exists_eq_or_imp]

theorem keysNodup_addModules (ms : List (μ × Summary κ)) {old : Idx κ μ} (h : KeysNodup (sec old)) :
    KeysNodup (sec (addModules old ms)) :=
  List.foldlRecOn ms stepModule h fun ix hix e _ => hf ix e ▸ keysNodup_addAll _ _ hix

theorem listed_addModules_again {ms : List (μ × Summary κ)} (old ix : Idx κ μ)
    (hix : sec ix = sec (addModules old ms)) {x : μ} {k : κ} :
    Listed (sec (addModules ix ms)) x k ↔ Listed (sec ix) x k := by
  rw [listed_addModules hf, or_iff_left_iff_imp, hix]
  exact fun h => (listed_addModules hf).mpr (Or.inr h)

end

theorem insertByKey_perm {α} (key : α → Nat) (x : α) (l : List α) : (insertByKey key x l).Perm (x :: l) := by
  induction l with
  | nil => simp [insertByKey]
  | cons y ys ih =>
    unfold insertByKey
    split
    · exact List.Perm.refl _
    · exact (List.Perm.cons y ih).trans (List.Perm.swap x y ys)

theorem sortByKey_perm {α} (key : α → Nat) (xs : List α) : (sortByKey key xs).Perm xs := by
  unfold sortByKey
  suffices ∀ acc : List α, (xs.foldl (fun acc x => insertByKey key x acc) acc).Perm (xs ++ acc) by simpa using this []
  induction xs with
  | nil => intro acc; simp
  | cons x xs ih =>
    intro acc
    exact ((ih _).trans (List.Perm.append_left xs (insertByKey_perm key x acc))).trans List.perm_middle

theorem mem_sortByKey {α} {key : α → Nat} {xs : List α} {y : α} : y ∈ sortByKey key xs ↔ y ∈ xs :=
  (sortByKey_perm key xs).mem_iff

theorem pairwise_insertByKey {α} (key : α → Nat) (x : α) (l : List α) (h : l.Pairwise (fun a b => key a ≤ key b)) :
    (insertByKey key x l).Pairwise (fun a b => key a ≤ key b) := by
  induction l with
  | nil => simp [insertByKey]
  | cons y ys ih =>
    obtain ⟨hy, hys⟩ := List.pairwise_cons.mp h
    unfold insertByKey
    split
    · refine List.pairwise_cons.mpr ⟨fun b hb => ?_, h⟩
      rcases List.mem_cons.mp hb with rfl | hb
      · omega
      · have := hy b hb; omega
    · refine List.pairwise_cons.mpr ⟨fun b hb => ?_, ih hys⟩
      rcases List.mem_cons.mp ((insertByKey_perm key x ys).mem_iff.mp hb) with rfl | hb
      · omega
      · exact hy b hb

theorem pairwise_sortByKey {α} (key : α → Nat) (xs : List α) : (sortByKey key xs).Pairwise (fun a b => key a ≤ key b) :=
  List.foldlRecOn xs _ List.Pairwise.nil fun acc h x _ => pairwise_insertByKey key x acc h

theorem superset_spec (a b : List μ) : superset a b = true ↔ ∀ x ∈ b, x ∈ a := by
  simp [superset]

theorem covered_iff {pref : κ → κ → Bool} {up : List (κ × List μ)} {e : κ × List μ} :
    covered pref up e.1 e.2 = true ↔ ∃ u ∈ up, Cov pref u e := by
  unfold covered Cov
  simp only [List.any_eq_true, Bool.and_eq_true, superset_spec]

theorem mem_compactStep {pref : κ → κ → Bool} {up : List (κ × List μ)} {e x : κ × List μ} :
    x ∈ compactStep pref up e ↔ x ∈ up ∨ (x = e ∧ covered pref up e.1 e.2 = false) := by
  unfold compactStep
  cases covered pref up e.1 e.2 <;> simp

/-- the loop only appends, and what it appends it takes from the entries offered, in their order -/
theorem foldl_compactStep_eq (pref : κ → κ → Bool) (l up : List (κ × List μ)) :
    ∃ k, l.foldl (compactStep pref) up = up ++ k ∧ k.Sublist l := by
  induction l generalizing up with
  | nil => exact ⟨[], by simp⟩
  | cons e l ih =>
    obtain ⟨k, hk, hs⟩ := ih (compactStep pref up e)
    rw [List.foldl_cons, hk]
    unfold compactStep
    split
    · exact ⟨k, rfl, hs.cons e⟩
    · exact ⟨e :: k, by simp, hs.cons_cons e⟩

/-- an entry the loop added was not covered by what had survived when it was offered -/
theorem foldl_compactStep_split {pref : κ → κ → Bool} {l up : List (κ × List μ)} {e : κ × List μ}
    (h : e ∈ l.foldl (compactStep pref) up) :
    e ∈ up ∨ ∃ l1 l2, l = l1 ++ e :: l2 ∧ covered pref (l1.foldl (compactStep pref) up) e.1 e.2 = false := by
  induction l generalizing up with
  | nil => exact Or.inl h
  | cons a l ih =>
    rcases ih h with h | ⟨l1, l2, hl, hc⟩
    · rcases mem_compactStep.mp h with h | ⟨rfl, hc⟩
      · exact Or.inl h
      · exact Or.inr ⟨[], l, rfl, hc⟩
    · exact Or.inr ⟨a :: l1, l2, by rw [hl]; rfl, hc⟩

theorem compactStep_dominates {pref : κ → κ → Bool} (hrefl : ∀ a, pref a a = true) (up : List (κ × List μ))
    (x : κ × List μ) : ∃ u ∈ compactStep pref up x, Cov pref u x := by
  cases hc : covered pref up x.1 x.2 with
  | true =>
    obtain ⟨u, hu, hcov⟩ := covered_iff.mp hc
    exact ⟨u, mem_compactStep.mpr (Or.inl hu), hcov⟩
  | false => exact ⟨x, mem_compactStep.mpr (Or.inr ⟨rfl, hc⟩), hrefl _, fun _ hy => hy⟩

theorem foldl_compactStep_dominates {pref : κ → κ → Bool} (hrefl : ∀ a, pref a a = true)
    {l : List (κ × List μ)} (up : List (κ × List μ)) {x : κ × List μ} (h : x ∈ l) :
    ∃ u ∈ l.foldl (compactStep pref) up, Cov pref u x := by
  obtain ⟨l1, l2, rfl⟩ := List.append_of_mem h
  obtain ⟨u, hu, hcov⟩ := compactStep_dominates hrefl (l1.foldl (compactStep pref) up) x
  obtain ⟨k, hk, -⟩ := foldl_compactStep_eq pref l2 (compactStep pref (l1.foldl (compactStep pref) up) x)
  exact ⟨u, by rw [List.foldl_append, List.foldl_cons, hk]; exact List.mem_append_left k hu, hcov⟩

theorem compact_sublist (pref : κ → κ → Bool) (depth : κ → Nat) (d : List (κ × List μ)) :
    (compact pref depth d).Sublist (sortByKey (fun e => depth e.1) d) := by
  obtain ⟨k, hk, hs⟩ := foldl_compactStep_eq pref (sortByKey (fun e : κ × List μ => depth e.1) d) []
  rwa [compact, hk]

theorem compact_sub {pref : κ → κ → Bool} {depth : κ → Nat} {d : List (κ × List μ)} : compact pref depth d ⊆ d :=
  fun _ h => mem_sortByKey.mp ((compact_sublist pref depth d).subset h)

theorem compact_dominates {pref : κ → κ → Bool} (depth : κ → Nat) (hrefl : ∀ a, pref a a = true)
    {d : List (κ × List μ)} {e : κ × List μ} (h : e ∈ d) : ∃ u ∈ compact pref depth d, Cov pref u e :=
  foldl_compactStep_dominates hrefl [] (mem_sortByKey.mpr h)

theorem compactOids_eq (pref : κ → κ → Bool) (depth : κ → Nat) (d : List (κ × List μ)) :
    compactOids pref depth d = compact pref depth d := by
  cases d <;> rfl

theorem keysNodup_compact_list (pref : κ → κ → Bool) (depth : κ → Nat) {d : List (κ × List μ)} (h : KeysNodup d) :
    KeysNodup (compact pref depth d) :=
  ((compact_sublist pref depth d).map Prod.fst).nodup (((sortByKey_perm _ d).map Prod.fst).nodup_iff.mpr h)

end Pysmi.Index
