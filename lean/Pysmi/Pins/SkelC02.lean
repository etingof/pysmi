import Pysmi.Generated.Skeletons
/-!
# Pins (C02): the control skeletons the hand-written models and oracles were written against

`Generated/Skeletons.lean` is rewritten from the source on every run (calls other than logging, string plumbing and pure
builtins, raises with their exception class, returns, loops, branches, handlers - in source order; for the scripts also the
exit status of every `sys.exit`).  A structural change of one of these methods breaks its pin - which is not by itself a
violation: the check then searches model and code for a failing input and reports what it finds.
(Literals written by harness/tools/repin.py when the models were last brought in line with the source.)
-/
namespace Pysmi.Pins.SkelC02
open Pysmi.Generated.Skeletons

/-- SmiV2Parser.parse (pysmi/parser/smi.py) -/
theorem pin_parserParse : parserParse = [
    "call:self.parser.parse", "call:self.reset", "if", "return:value", "return:value"] := rfl

/-- SmiV2Parser.p_error (pysmi/parser/smi.py) -/
theorem pin_parserError : parserError = [
    "if", "raise:error.PySmiParserError", "call:error.PySmiParserError", "raise:error.PySmiParserError",
    "call:error.PySmiParserError"] := rfl

end Pysmi.Pins.SkelC02
