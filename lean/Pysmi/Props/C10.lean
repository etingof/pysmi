import Pysmi.Lemmas.Compile
/-!
# C10 — up-to-date modules are not regenerated; rebuild, noDeps, stubs act as documented
(compile-level half; the file searchers' own decision is in `Props/C10Searcher.lean`)

For every list of searchers and every assignment of answers:
* `C10_searchLoop_fresh` / `C10_searchLoop_calls`: searchers are asked in the order added, up to
  and including the first that reports an up-to-date copy — every other answer (absent,
  package error, plain return) moves on — and none is asked after it;
* `C10_needStep`: a parsed module is dropped from code generation and reported `untouched`
  exactly when some searcher reports it fresh or `noDeps` excludes it;
* `C10_gen_calls`: the code generator is called exactly once per module that remains, in order.
-/
namespace Pysmi.Compile
open Pysmi

/-- position of the first searcher reporting not-modified (= length if none) -/
def firstFresh (n : Name) (mtime : Int) (rebuild : Bool) (srs : List (Name → Int → Bool → SearchAns)) : Nat :=
  srs.findIdx (fun sr => sr n mtime rebuild == .notModified)

theorem C10_searchLoop_fresh (n : Name) (mtime : Int) (rebuild : Bool)
    (srs : List (Name → Int → Bool → SearchAns)) (i : Nat) :
    (searchLoop n mtime rebuild srs i).1 = true ↔ ∃ sr ∈ srs, sr n mtime rebuild = .notModified := by
  induction srs generalizing i with
  | nil => simp [searchLoop]
  | cons sr rest ih =>
    rw [searchLoop]
    split
    · next h => exact ⟨fun _ => ⟨sr, List.mem_cons_self, h⟩, fun _ => rfl⟩
    · next h => simp only [ih, List.mem_cons, exists_eq_or_imp, eq_false h, false_or]

theorem C10_searchLoop_calls (n : Name) (mtime : Int) (rebuild : Bool)
    (srs : List (Name → Int → Bool → SearchAns)) (i : Nat) :
    (searchLoop n mtime rebuild srs i).2 =
      (List.range (min (firstFresh n mtime rebuild srs + 1) srs.length)).map
        (fun j => Call.search (i + j) n mtime rebuild) :=
  searchLoop_calls n mtime rebuild srs i

theorem needDrops_iff {c : Cfg} {o : Opts} {s : St} {n : Name} {mtime : Int} :
    needDrops c o s n mtime = true ↔
      (∃ sr ∈ c.searchers, sr n mtime o.rebuild = .notModified) ∨ (o.noDeps = true ∧ n ∉ s.canonical) := by
  simp [needDrops, C10_searchLoop_fresh]

/-- **C10_needStep**: what phase 2 does to one parsed module. -/
theorem C10_needStep (c : Cfg) (o : Opts) (s : St) (n alias : Name) (mtime : Int) (tree : Nat)
    (hp : s.parsed.get? n = some (alias, mtime, tree)) :
    let fresh := ∃ sr ∈ c.searchers, sr n mtime o.rebuild = .notModified
    let excluded := o.noDeps = true ∧ n ∉ s.canonical
    (needStep c o s n).trace = s.trace ++ (searchLoop n mtime o.rebuild c.searchers 0).2 ∧
    ((fresh ∨ excluded) →
        (needStep c o s n).parsed = s.parsed.del n ∧
        (needStep c o s n).processed.get? n = some { st := .untouched }) ∧
    (¬ (fresh ∨ excluded) →
        (needStep c o s n).parsed = s.parsed ∧ (needStep c o s n).processed = s.processed) := by
  intro fresh excluded
  rw [needStep_eq, hp]
  exact ⟨rfl, fun h => by simp [needDrops_iff.mpr h, AList.get?_set_eq], fun h => by simp [mt needDrops_iff.mp h]⟩

/-- the generator calls phase 3 issues for a `parsed` dict -/
def genCalls (o : Opts) (l : AList Name Rec) : List Call := l.map (fun e => Call.gen e.2.2.2 o.genTexts)

/-- **C10_gen_calls**: the code generator is called exactly once for every module still in
`parsed` after phase 2 (and for nothing else), in order. -/
theorem C10_gen_calls (c : Cfg) (o : Opts) (s : St) :
    (phaseGen c o s).trace = s.trace ++ genCalls o s.parsed := by
  unfold phaseGen
  generalize hl : s.parsed = l
  induction l generalizing s with
  | nil => simp [genCalls]
  | cons e l ih =>
    obtain ⟨n, alias, mtime, tree⟩ := e
    have h1 : (genStep c o s n).parsed = l ∧ (genStep c o s n).trace = s.trace ++ [.gen tree o.genTexts] := by
      rw [genStep_eq, show s.parsed.get? n = some (alias, mtime, tree) by simp [hl, AList.get?]]
      simp only
      split <;> simp [hl, AList.del]
    simp only [AList.keys_cons, List.foldl_cons]
    rw [ih _ h1.1, h1.2, List.append_assoc]; rfl

/-! ### non-vacuity -/
example : (searchLoop 7 10 false [fun _ _ _ => .notFound, fun _ _ _ => .error, fun _ _ _ => .notModified,
    fun _ _ _ => .notModified] 0) =
    (true, [.search 0 7 10 false, .search 1 7 10 false, .search 2 7 10 false]) := by decide

end Pysmi.Compile
