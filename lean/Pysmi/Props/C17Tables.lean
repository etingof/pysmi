import Pysmi.Model.Grammar
import Pysmi.Generated.Grammar
/-!
C17: the simulation check between the production lists regenerated from the source, evaluated by the
kernel (`decide +kernel`, no axioms).

`simAll P P'` looks every production of `P` up in `P'`, which is quadratic (≈5 s per pair of grammars).  The class
`parserFactory` builds for a relaxation is the strict one with the productions of the overridden functions taken out of
their places and the replacements appended.  Two facts about the check, neither depending on that shape, make the
evaluation follow it:
* read side by side the two lists pair off almost everywhere; `unmatched` drops those pairs in one pass and only what is
  left over goes through `simAll` (`simAll_unmatched`);
* what is left over is mostly found among the appended productions, and a grammar that is not simulated fails there, so
  both lists are read from the end (`simAll_reverse`: the check does not depend on the order of either list).
-/
namespace Pysmi.Grammar
variable {σ : Type} [DecidableEq σ]

/-- what is left of `P` when `P` and `P'` are read side by side and equal heads are dropped together -/
def unmatched : Prods σ → Prods σ → Prods σ
  | [], _ => []
  | P, [] => P
  | p :: P, q :: Q => if p == q then unmatched P Q else p :: unmatched P (q :: Q)  -- `==`: cheaper for the kernel than `decide (p = q)`

theorem unmatched_subset {P Q : Prods σ} {p : σ × List σ} (h : p ∈ unmatched P Q) : p ∈ P := by
  fun_induction unmatched P Q <;> grind

theorem mem_or_mem_unmatched {P : Prods σ} (Q : Prods σ) {p : σ × List σ} (h : p ∈ P) : p ∈ Q ∨ p ∈ unmatched P Q := by
  fun_induction unmatched P Q <;> grind

theorem simProd_iff {P' : Prods σ} {pr : σ × List σ} : simProd P' pr = true ↔
    pr ∈ P' ∨ ∃ g, (pr.1, g) ∈ P' ∧ expand1 P' g pr.2 = true := by
  simp only [simProd, Bool.or_eq_true, List.any_eq_true, Bool.and_eq_true, beq_iff_eq]
  constructor
  · rintro (⟨q, hq, h1, h2⟩ | ⟨q, hq, h1, h2⟩)
    · exact .inl (by rwa [← Prod.ext h1 h2])
    · exact .inr ⟨q.2, by rwa [← h1], h2⟩
  · rintro (h | ⟨g, hg, h⟩)
    · exact .inl ⟨pr, h, rfl, rfl⟩
    · exact .inr ⟨_, hg, rfl, h⟩

theorem simAll_unmatched (P P' : Prods σ) : simAll (unmatched P P') P' = simAll P P' := by
  rw [Bool.eq_iff_iff]
  simp only [simAll, List.all_eq_true]
  exact ⟨fun h pr hpr => (mem_or_mem_unmatched P' hpr).elim (simProd_iff.mpr ∘ .inl) (h pr),
    fun h pr hpr => h pr (unmatched_subset hpr)⟩

theorem expand1_reverse (P : Prods σ) : ∀ b a : List σ, expand1 P.reverse b a = expand1 P b a
  | [], _ => rfl
  | B :: b, a => by
    unfold expand1
    simp only [List.any_reverse, expand1_reverse P b]

theorem simAll_reverse (P P' : Prods σ) : simAll P.reverse P'.reverse = simAll P P' := by
  have : simProd P'.reverse = simProd P' := funext fun pr => by simp only [simProd, List.any_reverse, expand1_reverse]
  rw [simAll, this, List.all_reverse, simAll]

/-- the form in which the kernel evaluates a positive check -/
theorem simAll_of_unmatched {P P' : Prods σ} (h : simAll (unmatched P P').reverse P'.reverse = true) : simAll P P' = true := by
  rwa [simAll_reverse, simAll_unmatched] at h

end Pysmi.Grammar

namespace Pysmi.Generated.Grammar
open Pysmi.Grammar

theorem sim_smiV2_supportSmiV1Keywords : simAll nprods_smiV2 nprods_supportSmiV1Keywords = true :=
  simAll_of_unmatched (by decide +kernel)
theorem sim_smiV2_commaAtTheEndOfImport : simAll nprods_smiV2 nprods_commaAtTheEndOfImport = true :=
  simAll_of_unmatched (by decide +kernel)
theorem sim_smiV2_commaAtTheEndOfSequence : simAll nprods_smiV2 nprods_commaAtTheEndOfSequence = true :=
  simAll_of_unmatched (by decide +kernel)
theorem sim_smiV2_mixOfCommasAndSpaces : simAll nprods_smiV2 nprods_mixOfCommasAndSpaces = true :=
  simAll_of_unmatched (by decide +kernel)
theorem sim_smiV2_uppercaseIdentifier : simAll nprods_smiV2 nprods_uppercaseIdentifier = true :=
  simAll_of_unmatched (by decide +kernel)
theorem sim_smiV2_lowcaseIdentifier : simAll nprods_smiV2 nprods_lowcaseIdentifier = true :=
  simAll_of_unmatched (by decide +kernel)
theorem sim_smiV2_curlyBracesAroundEnterpriseInTrap : simAll nprods_smiV2 nprods_curlyBracesAroundEnterpriseInTrap = true :=
  simAll_of_unmatched (by decide +kernel)
theorem sim_smiV2_noCells : simAll nprods_smiV2 nprods_noCells = true :=
  simAll_of_unmatched (by decide +kernel)
theorem sim_smiV2_smiV1 : simAll nprods_smiV2 nprods_smiV1 = true :=
  simAll_of_unmatched (by decide +kernel)
theorem sim_smiV1_smiV1Relaxed : simAll nprods_smiV1 nprods_smiV1Relaxed = true :=
  simAll_of_unmatched (by decide +kernel)
theorem sim_supportSmiV1Keywords_smiV1Relaxed : simAll nprods_supportSmiV1Keywords nprods_smiV1Relaxed = true :=
  simAll_of_unmatched (by decide +kernel)
theorem sim_commaAtTheEndOfImport_smiV1Relaxed : simAll nprods_commaAtTheEndOfImport nprods_smiV1Relaxed = true :=
  simAll_of_unmatched (by decide +kernel)
theorem sim_commaAtTheEndOfSequence_smiV1Relaxed : simAll nprods_commaAtTheEndOfSequence nprods_smiV1Relaxed = true :=
  simAll_of_unmatched (by decide +kernel)
theorem sim_mixOfCommasAndSpaces_smiV1Relaxed : simAll nprods_mixOfCommasAndSpaces nprods_smiV1Relaxed = true :=
  simAll_of_unmatched (by decide +kernel)
theorem sim_uppercaseIdentifier_smiV1Relaxed : simAll nprods_uppercaseIdentifier nprods_smiV1Relaxed = true :=
  simAll_of_unmatched (by decide +kernel)
theorem sim_lowcaseIdentifier_smiV1Relaxed : simAll nprods_lowcaseIdentifier nprods_smiV1Relaxed = true :=
  simAll_of_unmatched (by decide +kernel)
theorem sim_curlyBracesAroundEnterpriseInTrap_smiV1Relaxed : simAll nprods_curlyBracesAroundEnterpriseInTrap nprods_smiV1Relaxed = true :=
  simAll_of_unmatched (by decide +kernel)
theorem sim_noCells_smiV1Relaxed : simAll nprods_noCells nprods_smiV1Relaxed = true :=
  simAll_of_unmatched (by decide +kernel)

/-- the relaxed grammar really is bigger: the strict one does not simulate it -/
theorem C17_relaxed_is_larger : simAll nprods_smiV1Relaxed nprods_smiV2 = false := by
  rw [← simAll_reverse]; decide +kernel

end Pysmi.Generated.Grammar
