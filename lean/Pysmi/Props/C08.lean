import Pysmi.Lemmas.Compile
/-!
# C08 — dependencies are followed transitively, in source order, and always terminate

`C08_terminates`: for **every** configuration whose import lists draw from a finite universe
of names (any finite universe: cycles, self-imports, several modules per file, files named
unlike their module, any number of sources and any outcome assignment), the discovery loop
of `compile` stops: there is a fuel for which `run` returns. This is the theorem that does
not hold for the code before commit d4ef293 (`C08_nonterminating_witness`).
-/
namespace Pysmi.Compile
open Pysmi

/-- the IMPORTS of every module the symbol pass accepts lie in `U` -/
def Closed (c : Cfg) (U : List Name) : Prop :=
  ∀ t name imps, c.sym t = .ok name imps → ∀ x ∈ imps, x ∈ U

/-- number of names of the universe not looked up yet -/
def unfetched (U : List Name) (s : St) : Nat := (U.filter (fun x => decide (x ∉ s.fetched))).length

structure QInv (U : List Name) (s0 s : St) : Prop where
  fetched : s.fetched = s0.fetched
  queue : ∀ x ∈ s.queue, x ∈ U

theorem qinv_trySources {U : List Name} (c : Cfg) (hc : Closed c U) (req : List Name) (n : Name)
    (srcs : List (Name → SrcAns)) (i : Nat) (s0 s : St) (h : QInv U s0 s) :
    QInv U s0 (trySources c req n srcs i s) := by
  refine trySources_induction n (fun _ h => ⟨h.1, h.2⟩) (fun h => ⟨h.1, h.2⟩) (fun h => ⟨h.1, h.2⟩) (fun _ _ _ _ hs h => ?_) h
  refine ⟨registerTree_fetched.trans h.fetched, fun x hx => ?_⟩
  rw [registerTree_queue] at hx
  exact (List.mem_append.mp hx).elim (h.queue x) (hc _ _ _ hs x)

theorem unfetched_cons_lt {U : List Name} {s : St} {n : Name} (hn : n ∈ U) (hf : n ∉ s.fetched) :
    unfetched U { s with fetched := n :: s.fetched } < unfetched U s := by
  have e : U.filter (fun x => decide (x ∉ n :: s.fetched)) =
      (U.filter (fun x => decide (x ∉ s.fetched))).filter (fun x => decide (x ≠ n)) := by
    rw [List.filter_filter]; congr 1; funext x; simp
  unfold unfetched
  rw [e]
  exact List.length_filter_lt_length_iff_exists.mpr ⟨n, List.mem_filter.mpr ⟨hn, by simpa using hf⟩, by simp⟩

/-- the heart of the termination argument: lexicographic in (names not looked up, queue length).  A step either pops
a name that needs no lookup, or looks one up that was not looked up before: the first shortens the queue, the second
uses up a name of the universe (`QInv`: a lookup only queues names of the universe). -/
theorem discover_terminates_aux (c : Cfg) (U : List Name) (hc : Closed c U) (req : List Name) :
    ∀ (k : Nat) (m : Nat) (s : St), unfetched U s < k → s.queue.length ≤ m → (∀ x ∈ s.queue, x ∈ U) →
      ∃ fuel s', discover c req fuel s = some s' := by
  intro k
  induction k with
  | zero => intro _ _ h; cases h
  | succ k ihk =>
    intro m
    induction m with
    | zero => intro s _ hm _; exact ⟨1, s, by simp [discover, List.eq_nil_of_length_eq_zero (Nat.le_zero.mp hm)]⟩
    | succ m ihm =>
      intro s hk hm hq
      cases hqq : s.queue with
      | nil => exact ⟨1, s, by simp [discover, hqq]⟩
      | cons n q =>
        rw [hqq] at hm hq
        have hq' : ∀ x ∈ q, x ∈ U := fun x hx => hq x (List.mem_cons_of_mem _ hx)
        suffices ∃ fuel s', discover c req fuel (discoverStep c req n { s with queue := q }) = some s' from
          let ⟨fuel, s', hd⟩ := this; ⟨fuel + 1, s', by simp [discover, hqq, hd]⟩
        refine discoverStep_cases (P := fun t => ∃ fuel s', discover c req fuel t = some s')
          (fun _ => ihm { s with queue := q } hk (Nat.le_of_succ_le_succ hm) hq') fun _ _ hnf => ?_
        have hqi := qinv_trySources c hc req n c.sources 0 _ { s with queue := q, fetched := n :: s.fetched } ⟨rfl, hq'⟩
        refine ihk _ _ ?_ (Nat.le_refl _) hqi.queue
        have hlt := unfetched_cons_lt (hq n List.mem_cons_self) hnf
        rw [unfetched, hqi.fetched]
        exact Nat.lt_of_lt_of_le hlt (Nat.le_of_lt_succ hk)

/-- **C08_terminates**: for every configuration over a finite universe of names, `compile` returns. -/
theorem C08_terminates (c : Cfg) (U : List Name) (hc : Closed c U) (req : List Name)
    (hreq : ∀ x ∈ req, x ∈ U) (o : Opts) : ∃ fuel out, run c req o fuel = some out := by
  obtain ⟨fuel, s', hd⟩ := discover_terminates_aux c U hc req _ req.length
    { queue := req } (Nat.lt_succ_self _) (Nat.le_refl _) hreq
  have : (run c req o fuel).isSome = true := by simp [run, beforeGate, hd]
  obtain ⟨out, ho⟩ := Option.isSome_iff_exists.mp this
  exact ⟨fuel, out, ho⟩

/-! ### witness: the alias cycle on which the code before commit d4ef293 looped forever -/

/-- file requested as `0` holds module `1`, which imports `0` -/
def aliasCycleCfg : Cfg :=
  { sources := [fun n => if n = 0 then .ok 0 10 1 else .notFound]
    parse := fun _ => .trees [1]
    sym := fun _ => .ok 1 [0]
    gen := fun t _ => .ok (1000 + t)
    searchers := [], borrowers := [], put := fun _ _ _ => true }

example : Closed aliasCycleCfg [0, 1] := by
  intro t name imps h x hx
  simp [aliasCycleCfg] at h
  obtain ⟨_, rfl⟩ := h
  simp at hx; simp [hx]

example : ((run aliasCycleCfg [0] {} 10).map (fun out => out.processed.map (fun e => (e.1, e.2.st)))) =
    some [(1, .compiled)] := by decide +kernel

/-- the discovery loop *without* the looked-up set (the code before the fix), for the witness -/
def discoverStepOld (c : Cfg) (req : List Name) (n : Name) (s : St) : St :=
  if s.parsed.contains n then s
  else if s.failed.contains n then s
  else trySources c req n c.sources 0 s

def discoverOld (c : Cfg) (req : List Name) : Nat → St → Option St
  | 0, _ => none
  | fuel + 1, s =>
    match s.queue with
    | [] => some s
    | n :: q => discoverOld c req fuel (discoverStepOld c req n { s with queue := q })

theorem discoverStepOld_lookup {c : Cfg} {req : List Name} {n : Name} (s : St) (hp : s.parsed.contains n = false)
    (hf : s.failed.contains n = false) : discoverStepOld c req n s = trySources c req n c.sources 0 s := by
  simp [discoverStepOld, hp, hf]

theorem aliasCycle_lookup (s : St) :
    trySources aliasCycleCfg [0] 0 aliasCycleCfg.sources 0 s =
      registerTree [0] (((s.log (.get 0 0)).log (.parse 1)).log (.sym 1)) 0 0 10 1 1 [0] := rfl

/-- **Witness (F3)**: without the looked-up set the alias cycle exhausts any fuel. -/
theorem C08_nonterminating_witness (fuel : Nat) :
    ∀ s : St, s.queue = [0] → s.failed = [] → (s.parsed = [] ∨ s.parsed = [(1, (0, 10, 1))]) →
      discoverOld aliasCycleCfg [0] fuel s = none := by
  induction fuel with
  | zero => intro s _ _ _; rfl
  | succ fuel ih =>
    intro s hq hf hp
    have hc : s.parsed.contains 0 = false := by rcases hp with hp | hp <;> rw [hp] <;> rfl
    unfold discoverOld
    simp only [hq]
    rw [discoverStepOld_lookup { s with queue := [] } hc (by rw [hf]; rfl), aliasCycle_lookup]
    refine ih _ registerTree_queue ?_ (Or.inr ?_)
    · simp only [registerTree_failed, St.log, hf]; rfl
    · simp only [registerTree_parsed, St.log]; rcases hp with hp | hp <;> rw [hp] <;> rfl

end Pysmi.Compile
