import Pysmi.Props.C02
import Pysmi.Lemmas.Except
/-!
# C11 / C02, continued — line numbers

* `C11_step_lines`: in every lexer state, what a rule adds to the line counter is the number of line ends (LF, CR, CR LF once)
  in the text it consumes, and no rule stops between a CR and its LF (this needed the repair c922e1f for MACRO / EXPORTS /
  CHOICE bodies);
* `C11_token_lines`: hence every token carries the number of the line it starts on, and a lexer error the number of the line on
  which scanning stopped: `1 + countNewlines (text.take offset)` — for every text and every layout;
  `C11_token_lines_tokens` ties the offset-recording scan to `lexAll`.
-/
namespace Pysmi.Lexer

/-- what a step must satisfy: the line ends it reports are those of the text it consumes, and it splits no CR LF -/
def StepOK (s : Str) : Step → Prop
  | .tok _ n _ lines => lines = countNewlines (s.take n) ∧ Clean (s.take n) (s.drop n)
  | .skip n _ lines => lines = countNewlines (s.take n) ∧ Clean (s.take n) (s.drop n)
  | .err _ => True

/-- **C11_step_lines**: in every lexer state, the number of line ends a rule adds to the line counter is the number of line
ends (CR LF counted once) in the text it consumes, and no rule stops between a CR and its LF. -/
theorem C11_step_lines (cfg : Cfg) (st : LexState) (line : Nat) (c : Char) (cs : Str) : StepOK (c :: cs) (step cfg st line (c :: cs)) :=
  match step cfg st line (c :: cs), step_consumes cfg st line c cs with
  | .tok .., h | .skip .., h => ⟨h.lines, h.clean⟩
  | .err _, _ => trivial

/-- `scan` that also records the offset at which each token starts -/
def scanOff (cfg : Cfg) : Nat → LexState → Nat → Nat → Str → Except LexErr (List (Tok × Nat))
  | 0, _, _, _, _ => .error .outOfFuel
  | _ + 1, _, _, _, [] => .ok []
  | fuel + 1, st, line, off, c :: cs =>
    match step cfg st line (c :: cs) with
    | .err k => .error (.err k line)
    | .tok t n next lines => (scanOff cfg fuel next (line + lines) (off + max n 1) ((c :: cs).drop (max n 1))).map ((t, off) :: ·)
    | .skip n next lines => scanOff cfg fuel next (line + lines) (off + max n 1) ((c :: cs).drop (max n 1))

theorem scanOff_tokens (cfg : Cfg) : ∀ (fuel : Nat) (st : LexState) (line off : Nat) (s : Str),
    (scanOff cfg fuel st line off s).map (List.map Prod.fst) = scan cfg fuel st line s
  | 0, _, _, _, _ => rfl
  | _ + 1, _, _, _, [] => rfl
  | fuel + 1, st, line, off, c :: cs => by
    rw [scan_cons, scanOff]
    cases step cfg st line (c :: cs) with
    | err k => rfl
    | tok t n next lines =>
      simp only
      rw [← scanOff_tokens cfg fuel next (line + lines) (off + max n 1)]
      cases scanOff cfg fuel next (line + lines) (off + max n 1) ((c :: cs).drop (max n 1)) <;> rfl
    | skip n next lines => exact scanOff_tokens cfg fuel _ _ _ _

theorem clean_append {pre seg rest : Str} (hne : seg ≠ []) (h : Clean seg rest) : Clean (pre ++ seg) rest := by
  rw [Clean, List.getLast?_eq_some_getLast hne] at h
  rwa [Clean, List.getLast?_append, List.getLast?_eq_some_getLast hne, Option.some_or]

theorem clean_take {pre s : Str} {n : Nat} (hn : 1 ≤ n) (h : Clean pre s) : Clean pre (s.take n) := by
  rwa [Clean, List.head?_take, if_neg (Nat.ne_of_gt hn)]

/-- in a scan of `text`, every token carries the line of the offset recorded with it, and a lexer error the line of some offset -/
def LinesOK (text : Str) : Except LexErr (List (Tok × Nat)) → Prop
  | .ok l => ∀ e ∈ l, e.1.line = 1 + countNewlines (text.take e.2)
  | .error (.err _ ln) => ∃ off, off ≤ text.length ∧ ln = 1 + countNewlines (text.take off)
  | .error .outOfFuel => True

theorem LinesOK.map_cons {text : Str} {t : Tok} {off : Nat} {r : Except LexErr (List (Tok × Nat))}
    (ht : t.line = 1 + countNewlines (text.take off)) (h : LinesOK text r) : LinesOK text (r.map ((t, off) :: ·)) := by
  cases r with
  | error e => exact h
  | ok l =>
    intro e he
    rcases List.mem_cons.mp he with rfl | he
    · exact ht
    · exact h e he

/-- The invariant of the scanning loop: `pre` is the text consumed so far and `off` its length.  (`off` is tied to `pre` only
while text is left: that spares showing that no rule reports a match longer than the text.) -/
theorem scanOff_lines (cfg : Cfg) : ∀ (fuel : Nat) (st : LexState) (pre s : Str) (off : Nat),
    Clean pre s → (s ≠ [] → off = pre.length) → LinesOK (pre ++ s) (scanOff cfg fuel st (1 + countNewlines pre) off s)
  | 0, _, _, _, _, _, _ => trivial
  | _ + 1, _, _, [], _, _, _ => fun _ he => nomatch he
  | fuel + 1, st, pre, c :: cs, off, hcl, hoff => by
    obtain rfl := hoff (by simp)
    have key : ∀ n lines next, Consumes (c :: cs) n lines → LinesOK (pre ++ c :: cs)
        (scanOff cfg fuel next (1 + countNewlines pre + lines) (pre.length + max n 1) ((c :: cs).drop (max n 1))) := by
      intro n lines next hc
      have hline : 1 + countNewlines pre + lines = 1 + countNewlines (pre ++ (c :: cs).take n) := by
        rw [countNewlines_append _ _ (clean_take hc.pos hcl), hc.lines, Nat.add_assoc]
      have hseg : (c :: cs).take n ≠ [] := by simpa using Nat.ne_of_gt hc.pos
      have := scanOff_lines cfg fuel next (pre ++ (c :: cs).take n) ((c :: cs).drop n) (pre.length + n)
        (clean_append hseg hc.clean) (fun hne => by
          have : n < (c :: cs).length := Nat.lt_of_not_le (fun h => hne (List.drop_eq_nil_of_le h))
          simp only [List.length_append, List.length_take]; omega)
      rwa [List.append_assoc, List.take_append_drop, ← hline, ← Nat.max_eq_left hc.pos] at this
    rw [scanOff]
    cases hstep : step cfg st (1 + countNewlines pre) (c :: cs) with
    | err k => exact ⟨pre.length, by simp, by simp⟩
    | tok t n next lines =>
      exact .map_cons (by rw [step_tok_line hstep, List.take_left' rfl]) (key n lines next (step_tok_consumes hstep))
    | skip n next lines => exact key n lines next (step_skip_consumes hstep)

/-- **C11_token_lines**: every token of a text carries the number of the line it starts on, and a lexer error is reported on the
line where scanning stopped: 1 + the number of line ends (LF, CR, CR LF counted once) in the text before that point - for every
text, in every layout. The tokens are those `lexAll` returns (`C11_token_lines_tokens`). -/
theorem C11_token_lines (cfg : Cfg) (text : Str) :
    (∀ l, scanOff cfg (text.length + 1) .initial 1 0 text = .ok l → ∀ e ∈ l, e.1.line = 1 + countNewlines (text.take e.2)) ∧
    (∀ k ln, scanOff cfg (text.length + 1) .initial 1 0 text = .error (.err k ln) →
      ∃ off, off ≤ text.length ∧ ln = 1 + countNewlines (text.take off)) := by
  have h : LinesOK text (scanOff cfg (text.length + 1) .initial 1 0 text) :=
    scanOff_lines cfg _ .initial [] text 0 (fun h => by simp at h) (fun _ => rfl)
  exact ⟨fun l hl => by rwa [hl] at h, fun k ln hl => by rwa [hl] at h⟩

theorem C11_token_lines_tokens (cfg : Cfg) (text : Str) :
    (scanOff cfg (text.length + 1) .initial 1 0 text).map (List.map Prod.fst) = lexAll cfg text := by
  rw [lexAll_eq_scan, scanOff_tokens]

example : (scanOff ⟨[], [], 4294967295, 18446744073709551615, true⟩ 40 .initial 1 0 "a\r\n\nb -- c\r z".toList).map
    (List.map (fun e => (e.1.line, e.2))) = .ok [(1, 0), (3, 4), (4, 12)] := by decide +kernel

end Pysmi.Lexer
