import Pysmi.Model.Lexer
/-!
Lemmas of the lexer model (`Model/Lexer.lean`) that the properties C02, C11 and C17 share.  Two facts about `step` carry
what C02 and C11 prove about one lexer step: `step_stamp` (the line number goes into the token and nowhere else) and
`step_consumes` (every rule of every state matches at least one character, reports the line ends of its match and does
not stop between a CR and its LF).
-/
namespace Pysmi.Lexer

theorem lexLoop_cons (cfg : Cfg) (fuel : Nat) (st : LexState) (line : Nat) (c : Char) (cs : Str) (acc : List Tok) :
    lexLoop cfg (fuel + 1) st line (c :: cs) acc =
      match step cfg st line (c :: cs) with
      | .err k => .error (.err k line)
      | .tok t n next lines => lexLoop cfg fuel next (line + lines) ((c :: cs).drop (max n 1)) (t :: acc)
      | .skip n next lines => lexLoop cfg fuel next (line + lines) ((c :: cs).drop (max n 1)) acc := rfl

def Step.stamp (l : Nat) : Step → Step
  | .tok t n next lines => .tok { t with line := l } n next lines
  | r => r

theorem ite_map {α β} {c : Prop} [Decidable c] {f : α → β} {a b : α} {a' b' : β} (ha : f a = a') (hb : f b = b') :
    f (ite c a b) = ite c a' b' := by
  split <;> assumption

/-- The step at line `l'` is the step at line `l` with the token's line replaced: nothing else depends on the line.
(Comparing two different `"…".toList` literals up to reduction unfolds both strings, some 2000 heartbeats a time, and `split`
on an `if` tries its new hypothesis on every other condition of the goal; `ite_map` splits without looking.) -/
theorem step_stamp (cfg : Cfg) (st : LexState) (l l' : Nat) (s : Str) : (step cfg st l s).stamp l' = step cfg st l' s := by
  cases st <;> unfold step <;> dsimp only <;> repeat' first | refine ite_map ?_ ?_ | split
  all_goals rfl

theorem step_tok_line {cfg : Cfg} {st : LexState} {line : Nat} {s : Str} {t : Tok} {n : Nat} {next : LexState} {lines : Nat}
    (h : step cfg st line s = .tok t n next lines) : t.line = line := by
  have := step_stamp cfg st line line s
  rw [h] at this
  injection this with h1
  exact (congrArg Tok.line h1).symm

/-- no line end is split between `a` and `b` -/
def Clean (a b : Str) : Prop := ¬ (a.getLast? = some '\r' ∧ b.head? = some '\n')

theorem countNewlines_cons (c : Char) (rest : Str) : countNewlines (c :: rest) =
    (if c = '\n' then 1 + countNewlines rest
     else if c = '\r' then (if rest.head? = some '\n' then countNewlines rest else 1 + countNewlines rest)
     else countNewlines rest) := rfl

/-- The count of `c :: r` looks at `r` only through its head, which `a ++ b` shares with `a` unless `a` is empty. -/
theorem countNewlines_append : ∀ (a b : Str), Clean a b → countNewlines (a ++ b) = countNewlines a + countNewlines b
  | [], b, _ => by simp [countNewlines]
  | [c], b, h => by
    rw [List.singleton_append, countNewlines_cons, countNewlines_cons c []]
    by_cases hc : c = '\r'
    · have hb : b.head? ≠ some '\n' := fun hb => h ⟨by simp [hc], hb⟩
      simp [hc, hb, countNewlines]
    · simp only [hc, if_false, countNewlines, apply_ite (· + countNewlines b), Nat.zero_add]
  | c :: d :: a, b, h => by
    have ih := countNewlines_append (d :: a) b (by rwa [Clean, List.getLast?_cons_cons] at h)
    rw [List.cons_append, countNewlines_cons, ih, countNewlines_cons c (d :: a)]
    simp only [apply_ite (· + countNewlines b), Nat.add_assoc]
    rfl

theorem countNewlines_zero {l : Str} (h : ∀ c ∈ l, c ≠ '\n' ∧ c ≠ '\r') : countNewlines l = 0 := by
  induction l with
  | nil => rfl
  | cons c cs ih =>
    rw [countNewlines_cons]
    have hc := h c (by simp)
    simp only [hc.1, hc.2, if_false]
    exact ih (fun x hx => h x (List.mem_cons_of_mem _ hx))

/-- A rule that matches `n` characters of `s` and reports `lines` line ends consumes something, reports the line ends of
what it consumes and splits no CR LF: what the loop needs of every step to keep its line counter right. -/
structure Consumes (s : Str) (n lines : Nat) : Prop where
  pos : 1 ≤ n
  lines : lines = countNewlines (s.take n)
  clean : Clean (s.take n) (s.drop n)

theorem Consumes.of_last {s : Str} {n : Nat} {c : Char} (hn : 1 ≤ n) (h : (s.take n).getLast? = some c) (hc : c ≠ '\r') :
    Consumes s n (countNewlines (s.take n)) :=
  ⟨hn, rfl, fun ⟨h1, _⟩ => hc (Option.some.inj (h.symm.trans h1))⟩

theorem Consumes.of_next {s : Str} {n : Nat} (hn : 1 ≤ n) (h : (s.drop n).head? ≠ some '\n') :
    Consumes s n (countNewlines (s.take n)) :=
  ⟨hn, rfl, fun ⟨_, h2⟩ => h h2⟩

def Plain (s : Str) (n : Nat) : Prop := ∀ c ∈ s.take n, c ≠ '\n' ∧ c ≠ '\r'

theorem Consumes.of_plain {s : Str} {n : Nat} (hn : 1 ≤ n) (h : Plain s n) : Consumes s n 0 :=
  ⟨hn, (countNewlines_zero h).symm, fun ⟨h1, _⟩ => (h _ (List.mem_of_getLast? h1)).2 rfl⟩

theorem Plain.zero {s : Str} : Plain s 0 := fun _ h => by simp at h

theorem Plain.cons {c : Char} {s : Str} {n : Nat} (hc : c ≠ '\n' ∧ c ≠ '\r') (h : Plain s n) : Plain (c :: s) (n + 1) := by
  intro x hx
  rw [List.take_succ_cons] at hx
  rcases List.mem_cons.mp hx with rfl | hx
  · exact hc
  · exact h x hx

theorem Plain.add {s : Str} {d k : Nat} (h1 : Plain s d) (h2 : Plain (s.drop d) k) : Plain s (d + k) := by
  intro x hx
  rw [List.take_add] at hx
  exact (List.mem_append.mp hx).elim (h1 x) (h2 x)

theorem ne_eol {p : Char → Bool} {c : Char} (h : p c = true) (hn : p '\n' = false := by decide)
    (hr : p '\r' = false := by decide) : c ≠ '\n' ∧ c ≠ '\r' :=
  ⟨fun e => (by rw [e, hn] at h; cases h), fun e => (by rw [e, hr] at h; cases h)⟩

theorem Plain.span (p : Char → Bool) (hn : p '\n' = false := by decide) (hr : p '\r' = false := by decide) :
    ∀ {s}, Plain s (spanLen p s)
  | [] => .zero
  | c :: cs => by
    unfold spanLen
    split
    · rw [Nat.add_comm]; exact .cons (ne_eol ‹_› hn hr) (span p hn hr)
    · exact .zero

theorem Consumes.char {c : Char} {cs : Str} (hc : c ≠ '\n' ∧ c ≠ '\r') : Consumes (c :: cs) 1 0 :=
  .of_plain (Nat.le_refl 1) (.cons hc .zero)

theorem newlineLen_consumes {s : Str} {n : Nat} (h : newlineLen s = some n) : Consumes s n 1 := by
  revert h
  fun_cases newlineLen s <;> intro h <;> cases h  -- what is left: CR LF, CR alone, LF
  next hlf =>
    obtain ⟨r, rfl⟩ := List.head?_eq_some_iff.mp hlf
    exact ⟨by decide, by simp [countNewlines], fun ⟨hl, _⟩ => by simp at hl⟩
  next hlf => exact ⟨Nat.le_refl 1, by simp [countNewlines], fun ⟨_, hd⟩ => hlf hd⟩
  next => exact ⟨Nat.le_refl 1, by simp [countNewlines], fun ⟨hl, _⟩ => by simp at hl⟩

theorem newlineLen_eq_none {c : Char} {cs : Str} : newlineLen (c :: cs) = none ↔ c ≠ '\r' ∧ c ≠ '\n' := by
  simp only [newlineLen]
  repeat' split
  all_goals simp [*]

theorem startsWith_take : ∀ {s lit : Str}, startsWith s lit = true → s.take lit.length = lit
  | _, [], _ => by simp
  | [], _ :: _, h => by simp [startsWith] at h
  | c :: s, d :: lit, h => by
    simp only [startsWith, Bool.and_eq_true, beq_iff_eq] at h
    simp [h.1, startsWith_take h.2]

/-- a literal word; the side conditions are decided for the word at hand -/
theorem Consumes.lit {s w : Str} (h : startsWith s w = true) (hw : 1 ≤ w.length := by decide)
    (hp : ∀ c ∈ w, c ≠ '\n' ∧ c ≠ '\r' := by decide) : Consumes s w.length 0 :=
  .of_plain hw (by unfold Plain; rw [startsWith_take h]; exact hp)

theorem matchUpper_consumes {s : Str} {n : Nat} (h : matchUpper s = some n) : Consumes s n 0 := by
  revert h
  fun_cases matchUpper s <;> intro h <;> cases h
  next hc =>
  refine .of_plain (Nat.le_add_right 1 _) ?_
  rw [Nat.add_comm]
  exact .cons (ne_eol hc) (.span isIdChar)

theorem matchLower_consumes {s : Str} {n : Nat} (h : matchLower s = some n) : Consumes s n 0 := by
  revert h
  fun_cases matchLower s <;> intro h <;> cases h
  next d c cs hd hc =>
  refine .of_plain (by omega) ?_
  rw [Nat.add_assoc, Nat.add_comm 1]
  exact .add (.span isDigit) (hd ▸ .cons (ne_eol hc) (.span isIdChar))

theorem matchNumber_consumes {s : Str} {n : Nat} (h : matchNumber s = some n) : Consumes s n 0 := by
  unfold matchNumber at h
  split at h <;> dsimp only at h <;> split at h <;> cases h
  · refine .of_plain (Nat.le_add_right 1 _) ?_
    rw [Nat.add_comm]
    exact .cons (by decide) (.span isDigit)
  · exact .of_plain (by omega) (.span isDigit)

theorem matchQuotedDigits_consumes {p : Char → Bool} {lo up : Char} {s : Str} {n : Nat}
    (h : matchQuotedDigits p lo up s = some n) (hn : p '\n' = false := by decide) (hr : p '\r' = false := by decide)
    (hlo : lo ≠ '\n' ∧ lo ≠ '\r' := by decide) (hup : up ≠ '\n' ∧ up ≠ '\r' := by decide) : Consumes s n 0 := by
  revert h
  fun_cases matchQuotedDigits p lo up s <;> intro h <;> cases h
  next cs d x _ hd hx =>
  refine .of_plain (by omega) (.cons (by decide) (.add (.span p hn hr) (hd ▸ .cons (by decide) (.cons ?_ .zero))))
  rcases Bool.or_eq_true_iff.mp hx with hx | hx
  · exact beq_iff_eq.mp hx ▸ hlo
  · exact beq_iff_eq.mp hx ▸ hup

theorem matchQuoted_consumes {s : Str} {n : Nat} (h : matchQuoted s = some n) : Consumes s n (countNewlines (s.take n)) := by
  revert h
  fun_cases matchQuoted s <;> intro h <;> cases h
  next cs d _ hd =>
  refine .of_last (c := '"') (by omega) ?_ (by decide)
  simp [List.take_add_one, ← List.head?_drop, hd]

theorem macroBodyLen_go_some {t : Str} {k m : Nat} (h : macroBodyLen.go t k = some m) :
    k ≤ m ∧ startsWith (t.drop (m - k)) "END".toList = true := by
  fun_induction macroBodyLen.go t k
  next => cases h
  next hs => cases h; exact ⟨Nat.le_refl _, by simpa using hs⟩
  next k _ ih =>
    obtain ⟨h1, h2⟩ := ih h
    exact ⟨by omega, by rwa [show m - k = (m - (k + 1)) + 1 by omega, List.drop_succ_cons]⟩

/-- the body rule of the `macro` state stops in front of an `E` -/
theorem macroBodyLen_consumes {s : Str} {n : Nat} (h : macroBodyLen s = some n) : Consumes s n (countNewlines (s.take n)) := by
  cases s with
  | nil => simp [macroBodyLen] at h
  | cons c rest =>
    simp only [macroBodyLen] at h
    obtain ⟨h1, h2⟩ := macroBodyLen_go_some h
    refine .of_next h1 fun hh => ?_
    rw [show n = (n - 1) + 1 by omega, List.drop_succ_cons] at hh
    obtain ⟨ys, hd⟩ := List.head?_eq_some_iff.mp hh
    rw [hd] at h2
    simp [startsWith] at h2

theorem spanLen_pos {p : Char → Bool} {c : Char} {cs : Str} (h : p c = true) : 1 ≤ spanLen p (c :: cs) := by
  unfold spanLen; simp [h]

theorem spanLen_drop_head {p : Char → Bool} {s : Str} {c : Char} (h : (s.drop (spanLen p s)).head? = some c) :
    p c = false := by
  fun_induction spanLen p s
  next => cases h
  next ih => rw [Nat.add_comm, List.drop_succ_cons] at h; exact ih h
  next x _ hp => cases h; simpa using hp

/-- the body rule of the `exports` and `choice` states runs up to the terminator -/
theorem span_consumes {stop c : Char} {cs : Str} (hstop : stop ≠ '\n') (hc : c ≠ stop) :
    Consumes (c :: cs) (spanLen (· != stop) (c :: cs)) (countNewlines ((c :: cs).take (spanLen (· != stop) (c :: cs)))) :=
  .of_next (spanLen_pos (by simpa using hc)) fun hh =>
    hstop (Eq.symm (by simpa using spanLen_drop_head hh))

def Step.Consumes (s : Str) : Step → Prop
  | .tok _ n _ lines | .skip n _ lines => Lexer.Consumes s n lines
  | .err _ => True

/-- Rule by rule, in the order of `step`; the `if`s by `iteInduction` for the reason given at `step_stamp`. -/
theorem step_consumes (cfg : Cfg) (st : LexState) (line : Nat) (c : Char) (cs : Str) :
    (step cfg st line (c :: cs)).Consumes (c :: cs) := by
  cases st <;> unfold step <;> dsimp only
  · -- INITIAL
    split
    next h => cases h; exact .char (by decide)
    next h => cases h; exact .char (by decide)
    split
    · exact newlineLen_consumes ‹_›
    refine iteInduction (fun h => .lit h) fun _ => ?_
    refine iteInduction (fun h => .lit h) fun _ => ?_
    refine iteInduction (fun h => .lit h) fun _ => ?_
    refine iteInduction (fun h => .lit h) fun _ => ?_
    split
    · refine iteInduction (fun _ => trivial) fun _ => iteInduction (fun _ => trivial) fun _ => ?_
      exact matchUpper_consumes ‹_›
    split
    · refine iteInduction (fun _ => trivial) fun _ => ?_
      exact matchLower_consumes ‹_›
    split
    · split
      · exact matchNumber_consumes ‹_›
      · trivial
    split
    · exact matchQuotedDigits_consumes ‹_›
    split
    · exact matchQuotedDigits_consumes ‹_›
    split
    · exact matchQuoted_consumes ‹_›
    refine iteInduction (fun h => .lit h) fun _ => ?_
    refine iteInduction (fun h => .lit h) fun _ => ?_
    refine iteInduction (fun h => ?_) fun _ => trivial
    exact .char (ne_eol h)
  · -- macro
    split
    · exact newlineLen_consumes ‹_›
    refine iteInduction (fun h => .lit h) fun _ => ?_
    split
    · exact macroBodyLen_consumes ‹_›
    · trivial
  case choice | exports =>
    split
    · exact newlineLen_consumes ‹_›
    split
    next h => cases h; exact .char (by decide)
    next h => exact span_consumes (by decide) fun e => h cs (congrArg (· :: cs) e)
  · -- comment
    split
    · exact newlineLen_consumes ‹_›
    next h =>
      exact .of_plain (spanLen_pos (by simpa using newlineLen_eq_none.mp h)) (.span _)

theorem step_skip_consumes {cfg : Cfg} {st next : LexState} {line n lines : Nat} {c : Char} {cs : Str}
    (h : step cfg st line (c :: cs) = .skip n next lines) : Consumes (c :: cs) n lines :=
  (h ▸ step_consumes cfg st line c cs : Step.Consumes (c :: cs) (.skip n next lines))

theorem step_tok_consumes {cfg : Cfg} {st next : LexState} {line n lines : Nat} {c : Char} {cs : Str} {t : Tok}
    (h : step cfg st line (c :: cs) = .tok t n next lines) : Consumes (c :: cs) n lines :=
  (h ▸ step_consumes cfg st line c cs : Step.Consumes (c :: cs) (.tok t n next lines))

end Pysmi.Lexer
