import Pysmi.Model.Symtab
/-!
Lemmas about the symbol pass.  Whatever `pass`, `fixpoint` and `regDecl` do to the output and the postponed list is a
sequence of one move: a postponed declaration whose parents are all there goes to the end of the output.  The
`*_induct` theorems say so; permutation, order and derivability of the output are checked against that move alone
(stability of a fixed point is not: `fixpoint_stable` walks the loop itself).
-/
namespace Pysmi.Symtab

def names (l : List Decl) : List Name := l.map (·.name)

theorem mem_names {d : Decl} {l : List Decl} (h : d ∈ l) : d.name ∈ names l := List.mem_map_of_mem h

theorem names_append (a b : List Decl) : names (a ++ b) = names a ++ names b := List.map_append

theorem allParents_iff {avail : Name → Bool} {out rows ps : List Name} :
    allParents avail out rows ps = true ↔ ∀ p ∈ ps, p ∈ out ∨ avail p = true ∨ p ∈ rows := by
  simp [allParents, parentExists, or_assoc]

theorem allParents_mono_rows {avail : Name → Bool} {out rows rows' ps : List Name}
    (h : allParents avail out rows ps = true) (hsub : ∀ x ∈ rows, x ∈ rows') :
    allParents avail out rows' ps = true :=
  allParents_iff.mpr fun p hp => (allParents_iff.mp h p hp).imp_right (·.imp_right (hsub p))

section move
variable {avail : Name → Bool} {rows : List Name} {P : List Name → List Decl → Prop}
  (move : ∀ o pre d suf, allParents avail o rows d.parents = true → P o (pre ++ d :: suf) → P (o ++ [d.name]) (pre ++ suf))
include move

theorem pass_induct (pre post : List Decl) (out : List Name) (h : P out (pre ++ post)) :
    P (pass avail rows post out).1 (pre ++ (pass avail rows post out).2.1) := by
  induction post generalizing pre out with
  | nil => exact h
  | cons d rest ih =>
    unfold pass
    split
    · rename_i hp
      exact ih pre _ (move out pre d rest hp h)
    · simpa using ih (pre ++ [d]) out (by simpa using h)

theorem fixpoint_induct (fuel : Nat) (post : List Decl) (out : List Name) (h : P out post) :
    P (fixpoint avail rows fuel post out).1 (fixpoint avail rows fuel post out).2 := by
  induction fuel generalizing post out with
  | zero => exact h
  | succ fuel ih =>
    unfold fixpoint
    have hp := pass_induct move [] post out h
    simp only
    split
    · exact ih _ _ hp
    · exact hp

end move

theorem perm_move {o : List Name} {pre : List Decl} {d : Decl} {suf : List Decl} :
    (o ++ [d.name] ++ names (pre ++ suf)).Perm (o ++ names (pre ++ d :: suf)) := by
  simp only [names, List.map_append, List.map_cons, List.append_assoc, List.singleton_append]
  exact List.Perm.append_left o List.perm_middle.symm

theorem fixpoint_out_mono (avail : Name → Bool) (rows : List Name) (fuel : Nat) (post : List Decl) (out : List Name) :
    ∀ x ∈ out, x ∈ (fixpoint avail rows fuel post out).1 :=
  fixpoint_induct (P := fun o _ => ∀ x ∈ out, x ∈ o)
    (fun _ _ _ _ _ h x hx => List.mem_append_left _ (h x hx)) fuel post out (fun _ hx => hx)

theorem pass_length (avail : Name → Bool) (rows : List Name) (post : List Decl) (out : List Name) :
    (pass avail rows post out).2.1.length ≤ post.length ∧
    ((pass avail rows post out).2.2 = true → (pass avail rows post out).2.1.length < post.length) := by
  induction post generalizing out with
  | nil => simp [pass]
  | cons d rest ih =>
    unfold pass
    split
    · have := (ih (out ++ [d.name])).1
      simp only [List.length_cons]
      exact ⟨by omega, fun _ => by omega⟩
    · have := ih out
      simp only [List.length_cons]
      exact ⟨by omega, fun h => by have := this.2 h; omega⟩

theorem pass_false {avail : Name → Bool} {rows : List Name} {post : List Decl} {out : List Name}
    (h : (pass avail rows post out).2.2 = false) :
    (pass avail rows post out).1 = out ∧ (pass avail rows post out).2.1 = post ∧
    ∀ d ∈ post, allParents avail out rows d.parents = false := by
  induction post with
  | nil => simp [pass]
  | cons d rest ih =>
    unfold pass at h ⊢
    split
    · rename_i hp; simp [hp] at h
    · rename_i hp
      simp only [hp] at h
      obtain ⟨h1, h2, h3⟩ := ih (by simpa using h)
      exact ⟨h1, by simp [h2], List.forall_mem_cons.mpr ⟨by simpa using hp, h3⟩⟩

/-- **with fuel above the number of postponed symbols the loop reaches a stable state**: no postponed
symbol is registrable any more -/
theorem fixpoint_stable (avail : Name → Bool) (rows : List Name) (fuel : Nat) (post : List Decl) (out : List Name)
    (hf : post.length < fuel) :
    ∀ d ∈ (fixpoint avail rows fuel post out).2,
      allParents avail (fixpoint avail rows fuel post out).1 rows d.parents = false := by
  induction fuel generalizing post out with
  | zero => omega
  | succ fuel ih =>
    unfold fixpoint
    simp only
    split
    · rename_i hflag
      have := (pass_length avail rows post out).2 hflag
      exact ih _ _ (by omega)
    · rename_i hflag
      obtain ⟨h1, h2, h3⟩ := pass_false (Bool.eq_false_iff.mpr hflag)
      rw [h1, h2]; exact h3

theorem regDecl_cases {avail : Name → Bool} {s s' : St} {d : Decl} (h : regDecl avail s d = .ok s') :
    d.name ∉ s.out ++ names s.postponed ∧ s'.rows = s.rows ++ d.addsRows ∧
    if allParents avail s.out s'.rows d.parents = true then
      (s'.out, s'.postponed) = fixpoint avail s'.rows (s.postponed.length + 1) s.postponed (s.out ++ [d.name])
    else s'.out = s.out ∧ s'.postponed = s.postponed ++ [d] := by
  unfold regDecl at h
  simp only at h
  split at h
  · cases h
  · rename_i hdup
    refine ⟨by simpa [names] using hdup, ?_⟩
    split at h <;> rename_i hp <;> cases h <;> simp [hp]

theorem regDecl_ok (avail : Name → Bool) {s : St} {d : Decl} (h : d.name ∉ s.out ++ names s.postponed) :
    ∃ s', regDecl avail s d = .ok s' := by
  unfold regDecl
  simp only
  rw [if_neg (by simpa [names] using h)]
  split <;> exact ⟨_, rfl⟩

/-- `regDecl` puts the declaration at the end of the postponed list and then only makes moves -/
theorem regDecl_induct {avail : Name → Bool} {s s' : St} {d : Decl} (h : regDecl avail s d = .ok s')
    {P : List Name → List Decl → Prop}
    (move : ∀ o pre x suf, allParents avail o s'.rows x.parents = true → P o (pre ++ x :: suf) → P (o ++ [x.name]) (pre ++ suf))
    (h0 : P s.out (s.postponed ++ [d])) : P s'.out s'.postponed := by
  obtain ⟨-, -, hc⟩ := regDecl_cases h
  split at hc
  · rename_i hp
    have := fixpoint_induct move (s.postponed.length + 1) s.postponed (s.out ++ [d.name])
      (by simpa using move s.out s.postponed d [] hp h0)
    rwa [← hc] at this
  · rw [hc.1, hc.2]; exact h0

theorem regDecl_out_induct {avail : Name → Bool} {s s' : St} {d : Decl} (h : regDecl avail s d = .ok s')
    {all : List Decl} (hall : ∀ x ∈ s.postponed ++ [d], x ∈ all) {Q : List Name → Prop}
    (step : ∀ o x, x ∈ all → allParents avail o s'.rows x.parents = true → Q o → Q (o ++ [x.name]))
    (h0 : Q s.out) : (∀ x ∈ s'.postponed, x ∈ all) ∧ Q s'.out :=
  regDecl_induct h (P := fun o p => (∀ x ∈ p, x ∈ all) ∧ Q o)
    (fun o pre x suf hp hP => ⟨fun y hy => hP.1 y (((List.sublist_cons_self x suf).append_left pre).subset hy),
      step o x (hP.1 x (by simp)) hp hP.2⟩) ⟨hall, h0⟩

theorem regAll_induct {avail : Name → Bool} {P : List Decl → St → Prop} {decls : List Decl}
    (step : ∀ done d s s', (∀ x ∈ done ++ [d], x ∈ decls) → P done s → regDecl avail s d = .ok s' → P (done ++ [d]) s')
    {s s' : St} (h0 : P [] s) (h : regAll avail decls s = .ok s') : P decls s' := by
  suffices ∀ rest done s, decls = done ++ rest → P done s → regAll avail rest s = .ok s' → P decls s' from
    this decls [] s rfl h0 h
  intro rest
  induction rest with
  | nil => intro done s hd h0 h; cases h; simpa [hd] using h0
  | cons d rest ih =>
    intro done s hd h0 h
    unfold regAll at h
    split at h
    · cases h
    · rename_i s1 hs1
      rw [List.append_cons] at hd
      exact ih (done ++ [d]) s1 hd (step done d s s1 (fun x hx => hd ▸ List.mem_append_left rest hx) h0 hs1) h

theorem run_ok_iff {avail : Name → Bool} {decls : List Decl} {order : List Name} :
    run avail decls = .ok order ↔ ∃ s, regAll avail decls {} = .ok s ∧ s.postponed = [] ∧ s.out = order := by
  unfold run
  split
  · simp [*]
  · rename_i s hs
    simp only [hs, Except.ok.injEq, exists_eq_left']
    by_cases hemp : s.postponed = [] <;> simp [hemp]

end Pysmi.Symtab
