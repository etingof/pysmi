import Pysmi.Props.C09
/-!
# C09 — a failure that nothing repairs blocks every write

`C09_gate` speaks about the state at the gate.  Here the premise is moved back to where failures arise: a name recorded
as failed / missing when discovery ends (`C09_unrepaired_failure_blocks`), or a module whose code generation fails
(`C09_generation_failure_blocks`), that no borrower delivers, is still recorded at the gate - so with errors not ignored
nothing is written and every built module is reported `unprocessed`.
-/
namespace Pysmi.Compile
open Pysmi

theorem failed_genStep (c : Cfg) (o : Opts) (s : St) (k : Name) {n : Name} (h : s.failed.contains n = true) :
    (genStep c o s k).failed.contains n = true := by
  rw [genStep_eq]
  split
  · exact h
  · split
    · exact h
    · exact AList.contains_set_of h

theorem failed_borrowStep (c : Cfg) (req : List Name) (o : Opts) (s : St) (k : Name) {n : Name}
    (hb : (borrowLoop n o.genTexts c.borrowers 0).1 = none) (h : s.failed.contains n = true) :
    (borrowStep c req o s k).failed.contains n = true := by
  by_cases hk : k = n
  · rw [borrowStep_eq, hk, hb]; split <;> exact h
  · exact (congrArg View.failed (borrowStep_view c req o s hk)).trans h

theorem failed_reaches_gate (c : Cfg) (req : List Name) (o : Opts) (s : St) (n : Name)
    (hb : (borrowLoop n o.genTexts c.borrowers 0).1 = none) (h : s.failed.contains n = true) :
    (phaseNeedBorrow c req o (phaseBorrow c req o (phaseGen c o (phaseNeed c o s)))).failed.contains n = true :=
  gate_induction (P := fun s : St => s.failed.contains n = true) (fun s k h => by rwa [needStep_failed])
    (fun s k => failed_genStep c o s k) (fun s k => failed_borrowStep c req o s k hb)
    (fun s k h => by rwa [needBorrowStep_failed]) h

theorem blocked_of_failed {c : Cfg} {req : List Name} {o : Opts} {fuel : Nat} {s0 : St} (n : Name)
    (hd : discover c req fuel { queue := req } = some s0) (hi : o.ignoreErrors = false)
    (hf : (phaseNeedBorrow c req o (phaseBorrow c req o (phaseGen c o (phaseNeed c o s0)))).failed.contains n = true) :
    ∃ s out, beforeGate c req o fuel = some s ∧ run c req o fuel = some out ∧ (∀ x ∈ out.trace, x.isPut = false) ∧
      ∀ m ∈ s.built.keys, out.processed.get? m = some { st := .unprocessed } := by
  have hs : beforeGate c req o fuel = some (phaseNeedBorrow c req o (phaseBorrow c req o (phaseGen c o (phaseNeed c o s0)))) := by
    simp [beforeGate, hd]
  have he : ∀ {d : AList Name Unit}, d.contains n = true → d.isEmpty = false := fun {d} h => by
    cases d with
    | nil => cases h
    | cons _ _ => rfl
  obtain ⟨out, ho, hp, hu⟩ := C09_gate c req o fuel _ hs (he hf) hi
  exact ⟨_, out, hs, ho, hp, hu⟩

/-- **C09_unrepaired_failure_blocks**: if, when discovery ends, some name is recorded as failed or missing (no source had
it, a reader, the parser or the symbol pass failed and no later source repaired it), no borrower delivers it, and errors
are not ignored, then the writer is never called and every built module is reported `unprocessed` - for every import
graph, every outcome of every other call, every other option. -/
theorem C09_unrepaired_failure_blocks (c : Cfg) (req : List Name) (o : Opts) (fuel : Nat) (s0 : St) (n : Name)
    (hd : discover c req fuel { queue := req } = some s0) (hf : s0.failed.contains n = true)
    (hb : (borrowLoop n o.genTexts c.borrowers 0).1 = none) (hi : o.ignoreErrors = false) :
    ∃ s out, beforeGate c req o fuel = some s ∧ run c req o fuel = some out ∧ (∀ x ∈ out.trace, x.isPut = false) ∧
      ∀ m ∈ s.built.keys, out.processed.get? m = some { st := .unprocessed } :=
  blocked_of_failed n hd hi (failed_reaches_gate c req o s0 n hb hf)

/-- **C09_generation_failure_blocks**: a module that reaches the code generator (parsed, not up to date, not excluded by
noDeps) and whose generation fails, with no borrower delivering it and errors not ignored: nothing is written. -/
theorem C09_generation_failure_blocks (c : Cfg) (req : List Name) (o : Opts) (fuel : Nat) (s0 : St) (n alias : Name)
    (mtime : Int) (tree : Nat)
    (hd : discover c req fuel { queue := req } = some s0)
    (hp : (phaseNeed c o s0).parsed.get? n = some (alias, mtime, tree)) (hg : c.gen tree o.genTexts = .error)
    (hb : (borrowLoop n o.genTexts c.borrowers 0).1 = none) (hi : o.ignoreErrors = false) :
    ∃ s out, beforeGate c req o fuel = some s ∧ run c req o fuel = some out ∧ (∀ x ∈ out.trace, x.isPut = false) ∧
      ∀ m ∈ s.built.keys, out.processed.get? m = some { st := .unprocessed } := by
  refine blocked_of_failed n hd hi ?_
  -- the record waits untouched until phase 3 reaches it, and the failure stays recorded from then on
  have h1 : (phaseGen c o (phaseNeed c o s0)).failed.contains n = true :=
    foldl_reaches (A := fun s : St => s.failed.contains n = true) (B := fun s : St => s.parsed.get? n = some (alias, mtime, tree))
      (fun s k => failed_genStep c o s k)
      (fun s k hk h => (congrArg View.parsed (genStep_view c o s hk)).trans h)
      (fun s h => by rw [genStep_eq, h]; simp only [hg]; exact AList.contains_set_self) (Or.inr ⟨hp, AList.mem_keys_of_get? hp⟩)
  exact foldl_induction (P := fun s : St => s.failed.contains n = true) (fun s k _ h => by rwa [needBorrowStep_failed])
    (foldl_induction (fun s k _ => failed_borrowStep c req o s k hb) h1)

/-- no file any source serves, under whatever name it is asked for, holds a module that calls itself `n` -/
def NoModuleNamed (c : Cfg) (n : Name) : Prop :=
  ∀ src ∈ c.sources, ∀ m alias mtime text ts, src m = .ok alias mtime text → c.parse text = .trees ts →
    ∀ t ∈ ts, ∀ name imps, c.sym t = .ok name imps → name ≠ n

structure KeepsFailed (n : Name) (s : St) : Prop where
  failed : s.failed.contains n = true
  notParsed : n ∉ s.parsed.keys

theorem np_failSource {n : Name} {s : St} (m : Name) (e : Err) (h : n ∉ s.parsed.keys) : n ∉ (failSource s m e).parsed.keys := h

theorem trySources_all_notFound (c : Cfg) (req : List Name) (n : Name) (srcs : List (Name → SrcAns)) (i : Nat) (s : St)
    (hnf : ∀ src ∈ srcs, src n = .notFound) (hp : n ∉ s.parsed.keys) : KeepsFailed n (trySources c req n srcs i s) :=
  trySources_post n (P := fun _ s => n ∉ s.parsed.keys) (Q := KeepsFailed n) (fun _ h => h) (fun _ _ h => h)
    (fun h => h) (fun h => ⟨markMissing_failed.mpr (.inl rfl), h⟩)
    (fun hs h1 => by rw [hnf _ hs] at h1; cases h1) (fun hs h1 => by rw [hnf _ hs] at h1; cases h1) rfl hp

/-- what holds of `n` in every state of the discovery loop -/
structure Pending (n : Name) (s : St) : Prop where
  queuedOrFailed : n ∈ s.queue ∨ s.failed.contains n = true
  notParsed : n ∉ s.parsed.keys
  fetchedFailed : n ∈ s.fetched → s.failed.contains n = true

theorem Pending.mono {n : Name} {s s' : St} (h : Pending n s) (hq : n ∈ s.queue → n ∈ s'.queue)
    (hf : s.failed.contains n = true → s'.failed.contains n = true) (hp : n ∉ s'.parsed.keys)
    (hfe : s'.fetched = s.fetched) : Pending n s' :=
  ⟨h.queuedOrFailed.imp hq hf, hp, fun hx => hf (h.fetchedFailed (hfe ▸ hx))⟩

theorem pending_trySources {c : Cfg} {req : List Name} {n m : Name} (hno : NoModuleNamed c n) (hm : m ≠ n) {i : Nat} {s : St}
    (h : Pending n s) : Pending n (trySources c req m c.sources i s) := by
  refine trySources_induction m (P := Pending n) (fun _ h => ⟨h.1, h.2, h.3⟩)
    (fun h => h.mono id AList.contains_set_of h.notParsed rfl)
    (fun h => h.mono id (fun hf => markMissing_failed.mpr (.inr hf)) h.notParsed rfl)
    (fun hsrc h1 h2 ht hs h => ?_) h
  have hname := hno _ hsrc m _ _ _ _ h1 h2 _ ht _ _ hs
  refine h.mono (fun hq => ?_) (fun hf => ?_) ?_ registerTree_fetched
  · rw [registerTree_queue]; exact List.mem_append_left _ hq
  · rwa [registerTree_failed, AList.contains_del_ne hname, AList.contains_del_ne hm]
  · rw [registerTree_parsed, AList.mem_keys_set]
    exact fun hm' => hm'.elim (fun e => hname e.symm) h.notParsed

theorem pending_discover (c : Cfg) (req : List Name) (n : Name) (hnf : ∀ src ∈ c.sources, src n = .notFound)
    (hno : NoModuleNamed c n) (fuel : Nat) (s s' : St) (h : Pending n s) (hd : discover c req fuel s = some s') :
    s'.failed.contains n = true := by
  -- when `m` leaves the work list, `n` is still on it, or is `m` and recorded as failed
  have pop : ∀ {s : St} {m : Name} {q : List Name}, s.queue = m :: q → Pending n s → (m = n → s.failed.contains n = true) →
      n ∈ q ∨ s.failed.contains n = true := fun hq h hm =>
    h.queuedOrFailed.elim (fun h1 => (List.mem_cons.mp (hq ▸ h1)).elim (fun e => .inr (hm e.symm)) .inl) .inr
  suffices h' : Pending n s' ∧ s'.queue = [] from h'.1.queuedOrFailed.resolve_left (by simp [h'.2])
  refine discover_induction (P := Pending n) (fun {s m q} hq hs h => ?_) (fun {s m q} hq _ _ _ h => ?_) h hd
  · refine ⟨pop (s := s) hq h fun e => ?_, h.notParsed, h.fetchedFailed⟩
    subst e
    exact hs.elim (fun hp => absurd ((AList.contains_iff_mem_keys _ _).mp hp) h.notParsed) (·.elim id h.fetchedFailed)
  · by_cases hm : m = n
    · subst hm
      have k := trySources_all_notFound c req m c.sources 0 { s with queue := q, fetched := m :: s.fetched } hnf h.notParsed
      exact ⟨Or.inr k.failed, k.notParsed, fun _ => k.failed⟩
    · exact pending_trySources hno hm ⟨pop (s := s) hq h (absurd · hm), h.notParsed,
        fun hf => h.fetchedFailed ((List.mem_cons.mp hf).resolve_left (Ne.symm hm))⟩

/-- **C09_missing_module_blocks**: stated on the inputs alone - a requested module that no source has, that no file of any
source contains under whatever name, and that no borrower delivers, with errors not ignored: the writer is never called and
every module that was built is reported `unprocessed`, whatever else the request names, whatever the import graph and the
outcome of every other call. -/
theorem C09_missing_module_blocks (c : Cfg) (req : List Name) (o : Opts) (fuel : Nat) (s0 : St) (n : Name)
    (hd : discover c req fuel { queue := req } = some s0) (hn : n ∈ req)
    (hnf : ∀ src ∈ c.sources, src n = .notFound) (hno : NoModuleNamed c n)
    (hb : (borrowLoop n o.genTexts c.borrowers 0).1 = none) (hi : o.ignoreErrors = false) :
    ∃ s out, beforeGate c req o fuel = some s ∧ run c req o fuel = some out ∧ (∀ x ∈ out.trace, x.isPut = false) ∧
      ∀ m ∈ s.built.keys, out.processed.get? m = some { st := .unprocessed } :=
  C09_unrepaired_failure_blocks c req o fuel s0 n hd
    (pending_discover c req n hnf hno fuel _ s0 ⟨Or.inl hn, by simp, fun h => by cases h⟩ hd) hb hi

/-- non-vacuity: module 1 is there and imports 2; 2 is requested too, no source has it, no file contains it -/
def missCfg : Cfg where
  sources := [fun n => if n = 1 then .ok 1 0 10 else .notFound]
  parse := fun t => .trees [t]
  sym := fun t => if t = 10 then .ok 1 [2] else .error
  gen := fun t _ => .ok (t + 1)
  searchers := []
  borrowers := []
  put := fun _ _ _ => true

theorem missCfg_hyps : (∀ src ∈ missCfg.sources, src 2 = .notFound) ∧ NoModuleNamed missCfg 2 := by
  refine ⟨fun src hs => ?_, fun src hsrc m alias mtime text ts hs hp t ht name imps hy => ?_⟩
  · cases List.mem_singleton.mp hs; rfl
  · -- the one file holds the one tree `10`, a module called `1`
    cases List.mem_singleton.mp hsrc
    cases hp
    cases List.mem_singleton.mp ht
    simp only [missCfg] at hs hy
    split at hs <;> cases hs
    cases hy
    decide

example : ((run missCfg [1, 2] {} 10).map fun out => (out.processed.map fun e => (e.1, e.2.st), out.trace.filter Call.isPut)) =
    some ([(2, .missing), (1, .unprocessed)], []) := by decide +kernel

end Pysmi.Compile
