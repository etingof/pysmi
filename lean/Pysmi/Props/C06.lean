import Pysmi.Model.Struct
/-!
# C06 — references between objects keep their targets, order and module attribution

For lists of any length, any mix of local and imported objects, any number of import clauses.
-/
namespace Pysmi.Struct

theorem foldl_skip {n : Name} {l : List (Module × List Name)} (h : ∀ e ∈ l, n ∉ e.2) (acc : Option Module) :
    l.foldl (fun acc e => if e.2.contains n then some e.1 else acc) acc = acc := by
  induction l with
  | nil => rfl
  | cons e rest ih =>
    rw [List.forall_mem_cons] at h
    rw [List.foldl_cons, if_neg (by simpa using h.1), ih h.2]

theorem importMap_split {pre post : List (Module × List Name)} {m : Module} {syms : List Name} {n : Name}
    (hn : n ∈ syms) (hpost : ∀ e ∈ post, n ∉ e.2) : importMap (pre ++ (m, syms) :: post) n = some m := by
  rw [importMap, List.foldl_append, List.foldl_cons, if_pos (by simpa using hn), foldl_skip hpost]

theorem last_split {α : Type} (p : α → Prop) [DecidablePred p] (l : List α) :
    (∀ e ∈ l, ¬ p e) ∨ ∃ pre e post, l = pre ++ e :: post ∧ p e ∧ ∀ x ∈ post, ¬ p x := by
  induction l with
  | nil => exact .inl (List.forall_mem_nil _)
  | cons a rest ih =>
    rcases ih with h | ⟨pre, e, post, rfl, he, hpost⟩
    · by_cases ha : p a
      · exact .inr ⟨[], a, rest, rfl, ha, h⟩
      · exact .inl (List.forall_mem_cons.mpr ⟨ha, h⟩)
    · exact .inr ⟨a :: pre, e, post, rfl, he, hpost⟩

/-- **C06_importmap_spec**: a symbol is attributed to a module iff some import clause of that module
lists it and no later clause (in sorted module order) does. -/
theorem C06_importmap_spec (imports : List (Module × List Name)) (n : Name) (m : Module) :
    importMap imports n = some m ↔
      ∃ pre post syms, imports = pre ++ (m, syms) :: post ∧ n ∈ syms ∧ ∀ e ∈ post, n ∉ e.2 := by
  constructor
  · intro h
    rcases last_split (n ∈ ·.2) imports with hnone | ⟨pre, ⟨m', syms⟩, post, rfl, he, hpost⟩
    · rw [importMap, foldl_skip hnone] at h
      cases h
    · rw [importMap_split he hpost] at h
      cases h
      exact ⟨pre, post, syms, rfl, he, hpost⟩
  · rintro ⟨pre, post, syms, rfl, hn, hpost⟩
    exact importMap_split hn hpost

/-- **C06_object_lists**: OBJECTS / NOTIFICATIONS / VARIABLES lists keep every object, in the written
order, each attributed to the module it is imported from, else to the current module. -/
theorem C06_object_lists (imports : List (Module × List Name)) (self : Module) (xs : List Name) :
    (genObjects imports self xs).map (·.object) = xs ∧
    (genObjects imports self xs).length = xs.length ∧
    ∀ r ∈ genObjects imports self xs,
      r.module = match importMap imports r.object with | some m => m | none => self := by
  refine ⟨?_, by simp [genObjects], ?_⟩
  · simp [genObjects, mkRef, Function.comp_def]
  · intro r hr
    simp only [genObjects, List.mem_map] at hr
    obtain ⟨x, _, rfl⟩ := hr
    simp only [mkRef]
    cases importMap imports x <;> rfl

/-- **C06_indices**: INDEX lists keep their order, IMPLIED flags and module attribution. -/
theorem C06_indices (imports : List (Module × List Name)) (self : Module) (idx : List (Bool × Name)) :
    (genTableIndex imports self idx).map (fun r => (r.implied, r.object)) = idx ∧
    ∀ r ∈ genTableIndex imports self idx,
      r.module = match importMap imports r.object with | some m => m | none => self := by
  constructor
  · simp [genTableIndex, Function.comp_def]
  · intro r hr
    simp only [genTableIndex, List.mem_map] at hr
    obtain ⟨i, _, rfl⟩ := hr
    simp only
    cases importMap imports i.2 <;> rfl

/-- **C06_compliance**: the groups of every MODULE clause, in order, attributed to the named module or,
when none is named, the current one. -/
theorem C06_compliance (self : Module) (mods : List (Option Module × List Name)) :
    (genCompliances self mods).map (·.object) = mods.flatMap (·.2) ∧
    ∀ cm ∈ mods, ∀ g ∈ cm.2, (⟨match cm.1 with | some m => m | none => self, g⟩ : Ref) ∈ genCompliances self mods := by
  constructor
  · simp only [genCompliances, List.map_flatMap, List.map_map]
    congr 1
    funext cm
    simp [Function.comp_def]
  · intro cm hcm g hg
    simp only [genCompliances, List.mem_flatMap, List.mem_map]
    refine ⟨cm, hcm, g, hg, ?_⟩
    cases cm.1 <;> rfl

/-- **C06_nodetype**: the classification as a declarative statement over the *whole* module's row-type
and column sets (so it cannot depend on the order of declarations). -/
theorem C06_nodetype (rows cols : List Name) (name : Name) (syn : Syn) :
    (nodeType rows cols name syn = .column ↔ name ∈ cols) ∧
    (nodeType rows cols name syn = .table ↔ name ∉ cols ∧ ∃ r, syn = .seqOf r) ∧
    (nodeType rows cols name syn = .row ↔ name ∉ cols ∧ ∃ t, syn = .named t ∧ t ∈ rows) := by
  unfold nodeType
  by_cases hm : name ∈ cols
  · simp [hm]
  · cases syn with
    | named t => by_cases ht : t ∈ rows <;> simp [hm, ht]
    | _ => simp [hm]

theorem contains_congr {l l' : List Name} (h : ∀ x, x ∈ l ↔ x ∈ l') (a : Name) : l.contains a = l'.contains a := by
  rw [Bool.eq_iff_iff, List.contains_iff_mem, List.contains_iff_mem, h]

theorem nodeType_perm_invariant (rows rows' cols cols' : List Name) (hr : ∀ x, x ∈ rows ↔ x ∈ rows')
    (hc : ∀ x, x ∈ cols ↔ x ∈ cols') (name : Name) (syn : Syn) :
    nodeType rows cols name syn = nodeType rows' cols' name syn := by
  unfold nodeType
  rw [contains_congr hc]
  cases syn <;> simp only [contains_congr hr]

/-! ### non-vacuity -/
example : importMap [(1, [10, 11]), (2, [11]), (3, [12])] 11 = some 2 := by decide
example : genTableIndex [(1, [10])] 9 [(false, 10), (true, 20)] = [⟨1, 10, false⟩, ⟨9, 20, true⟩] := by decide
example : nodeType [5] [7] 7 (.named 5) = .column ∧ nodeType [5] [7] 8 (.named 5) = .row ∧
    nodeType [5] [7] 8 (.seqOf 5) = .table ∧ nodeType [5] [7] 8 .bits = .scalar := by decide

end Pysmi.Struct
