import Pysmi.Props.C02LR
import Pysmi.Lemmas.Lexer
/-!
# C11 — malformed input is rejected with a located package error, never accepted

* `C11_total`: the model of `parse` has exactly three kinds of outcome — a list of modules, the
  lexer error with a line, the parser error with a line — plus the internal `other` (a failing action, inconsistent
  tables, the driver out of fuel), which nothing proved here rules out.
* `C11_step_progress`: every lexer rule in every state consumes at least one character (the condition
  PLY checks only for the empty string), so the `max n 1` by which `lexLoop` advances is `n`, as in PLY;
  `C11_lexer_terminates`: scanning any text finishes within `length + 1` steps (by that `max` alone).
* `C11_accept_means_complete`: whenever `parse` returns modules, the *whole* token list of the text
  was accepted by the LR driver as one derivation from `mibFile` (no lexer error anywhere, no token
  left over): a text that ends inside a module is never accepted — for every prefix of every text.
* `C11_number_class`: numbers beyond 64 bits are lexer errors; the 32/64-bit classes are as documented.
-/
namespace Pysmi.Lexer

theorem spanLen_le (p : Char → Bool) (s : Str) : spanLen p s ≤ s.length := by
  induction s with
  | nil => simp [spanLen]
  | cons c cs ih => unfold spanLen; split <;> simp <;> omega

/-- what a step consumes; an error step counts as 1 so that progress can be stated of every step -/
def Step.consumed : Step → Nat
  | .tok _ n _ _ => n
  | .skip n _ _ => n
  | .err _ => 1

/-- **C11_step_progress**: every rule of every lexer state consumes at least one character of a
non-empty input. -/
theorem C11_step_progress (cfg : Cfg) (st : LexState) (line : Nat) (c : Char) (cs : Str) :
    1 ≤ (step cfg st line (c :: cs)).consumed :=
  match step cfg st line (c :: cs), step_consumes cfg st line c cs with
  | .tok .., h | .skip .., h => h.pos
  | .err _, _ => Nat.le_refl 1

/-- **C11_lexer_terminates**: the scanning loop never runs out of fuel when given `length + 1` steps:
for every text it ends with the token list or a lexer error. -/
theorem C11_lexer_terminates (cfg : Cfg) : ∀ (fuel : Nat) (st : LexState) (line : Nat) (s : Str) (acc : List Tok),
    s.length < fuel → lexLoop cfg fuel st line s acc ≠ .error .outOfFuel
  | 0, _, _, _, _, h => by omega
  | _ + 1, _, _, [], _, _ => by simp [lexLoop]
  | fuel + 1, st, line, c :: cs, acc, h => by
    have hd (n : Nat) : ((c :: cs).drop (max n 1)).length < fuel := by
      simp only [List.length_drop, List.length_cons] at h ⊢; omega
    rw [lexLoop_cons]
    cases step cfg st line (c :: cs) with
    | err k => simp
    | tok t n next lines => exact C11_lexer_terminates cfg fuel _ _ _ _ (hd n)
    | skip n next lines => exact C11_lexer_terminates cfg fuel _ _ _ _ (hd n)

/-- **C11_number_class**: the token class of a number is a function of its value and the two bounds;
beyond 64 bits it is a lexer error. -/
theorem C11_number_class (cfg : Cfg) (v : Int) :
    (v.natAbs ≤ cfg.u32 → classifyNumber cfg v = some (if v < 0 then "NEGATIVENUMBER" else "NUMBER")) ∧
    (cfg.u32 < v.natAbs → v.natAbs ≤ cfg.u64 →
      classifyNumber cfg v = some (if v < 0 then "NEGATIVENUMBER64" else "NUMBER64")) ∧
    (cfg.u64 < v.natAbs → cfg.u32 ≤ cfg.u64 → classifyNumber cfg v = none) := by
  unfold classifyNumber
  exact ⟨fun h => by simp [h], fun h1 h2 => by simp [Nat.not_le.mpr h1, h2],
    fun h1 h2 => by simp [Nat.not_le.mpr h1, Nat.not_le.mpr (Nat.lt_of_le_of_lt h2 h1)]⟩

end Pysmi.Lexer

namespace Pysmi.LR
open Pysmi.Lexer

/-- **C11_accept_means_complete**: `parse` returns modules only if scanning met no error and the LR
driver accepted the *entire* token list as one derivation tree rooted at the start symbol. -/
theorem C11_accept_means_complete (cfg : Lexer.Cfg) (T : Tables) (A : Actions) (text : List Char) (ast : Py.PyVal)
    (h : parse cfg T A text = .modules ast)
    (toks : List Lexer.Tok) (lexErr : Option Nat) (eofLine : Nat)
    (hc : collect cfg (text.length + 1) .initial 1 text [] = (toks, lexErr, eofLine)) :
    lexErr = none ∧ ∃ tree, run T (fuelFor (parserInput toks lexErr).length) [] (parserInput toks lexErr) = .ok tree ∧
      tree.Valid T ∧ tree.sym = T.start ∧ tree.frontier = toks.map tokOf := by
  unfold parse at h
  simp only [hc] at h
  split at h <;> try cases h  -- what is left: the driver accepted
  next tree hrun =>
  have hs := C02_lr_sound T _ _ tree hrun
  have hnone : lexErr = none := by
    cases hl : lexErr with
    | none => rfl
    | some l =>
      refine absurd rfl (C02_no_accept_past_lexer_error T _ _ _ tree hrun ⟨lexErrSym, .none, l⟩ ?_)
      simp [parserInput, hl]
  refine ⟨hnone, tree, hrun, hs.1, hs.2.1, ?_⟩
  rw [hs.2.2]
  simp [parserInput, hnone]

/-- **C11_total**: the outcomes of `parse`. -/
theorem C11_total (cfg : Lexer.Cfg) (T : Tables) (A : Actions) (text : List Char) :
    (∃ ast, parse cfg T A text = .modules ast) ∨ (∃ l, parse cfg T A text = .lexerError l) ∨
    (∃ l, parse cfg T A text = .parserError l) ∨ (∃ m, parse cfg T A text = .other m) := by
  cases h : parse cfg T A text with
  | modules a => exact Or.inl ⟨a, rfl⟩
  | lexerError l => exact Or.inr (Or.inl ⟨l, rfl⟩)
  | parserError l => exact Or.inr (Or.inr (Or.inl ⟨l, rfl⟩))
  | other m => exact Or.inr (Or.inr (Or.inr ⟨m, rfl⟩))

end Pysmi.LR
