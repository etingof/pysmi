import Pysmi.Generated.Skeletons
/-!
# Pins (C17): the control skeletons the hand-written models and oracles were written against

`Generated/Skeletons.lean` is rewritten from the source on every run (calls other than logging, string plumbing and pure
builtins, raises with their exception class, returns, loops, branches, handlers - in source order; for the scripts also the
exit status of every `sys.exit`).  A structural change of one of these methods breaks its pin - which is not by itself a
violation: the check then searches model and code for a failing input and reports what it finds.
(Literals written by harness/tools/repin.py when the models were last brought in line with the source.)
-/
namespace Pysmi.Pins.SkelC17
open Pysmi.Generated.Skeletons

/-- .parserFactory (pysmi/parser/smi.py) -/
theorem pin_parserFactory : parserFactory = [
    "loop", "if", "if", "raise:error.PySmiError", "call:error.PySmiError", "loop", "if", "call:lexerFactory",
    "return:value"] := rfl

/-- .lexerFactory (pysmi/lexer/smi.py) -/
theorem pin_lexerFactory : lexerFactory = [
    "loop", "if", "if", "raise:error.PySmiError", "call:error.PySmiError", "loop", "if", "call:func", "call:func",
    "return:value"] := rfl

end Pysmi.Pins.SkelC17
