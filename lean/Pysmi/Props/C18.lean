import Pysmi.Lemmas.Index
import Pysmi.Lemmas.DotPrefix
/-!
# C18 — the OID→module index covers every indexed OID and merges monotonically

Full statement (the property as given): for every old index, every list of (module, summary)
results and every module `m` with OID `o` in its summary, the `oids` section of
`genIndex`'s result has a key `k` that is a component-wise prefix of `o` and lists `m`;
a module is listed only under OIDs it defines (or the old index attributed to it); the old
index's identity/enterprise/compliance entries and every cover survive; re-indexing the
same results changes nothing.

Everything below is for *all* old indexes, module lists and OID sets (induction over the
module list and the compaction loop), generic in the prefix test, then instantiated with
the string test the code performs.
-/
namespace Pysmi.Index
set_option linter.unusedSectionVars false

variable {κ μ : Type} [DecidableEq κ] [DecidableEq μ]

structure Admissible (pref : κ → κ → Bool) : Prop where
  refl : ∀ a, pref a a = true
  trans : ∀ a b c, pref a b = true → pref b c = true → pref a c = true

theorem build_oids (pref : κ → κ → Bool) (depth : κ → Nat) (old : Idx κ μ) (ms : List (μ × Summary κ)) :
    (build pref depth old ms).oids = compact pref depth (addModules old ms).oids := compactOids_eq pref depth _
theorem build_identity (pref : κ → κ → Bool) (depth : κ → Nat) (old : Idx κ μ) (ms : List (μ × Summary κ)) :
    (build pref depth old ms).identity = (addModules old ms).identity := rfl
theorem build_enterprise (pref : κ → κ → Bool) (depth : κ → Nat) (old : Idx κ μ) (ms : List (μ × Summary κ)) :
    (build pref depth old ms).enterprise = (addModules old ms).enterprise := rfl
theorem build_compliance (pref : κ → κ → Bool) (depth : κ → Nat) (old : Idx κ μ) (ms : List (μ × Summary κ)) :
    (build pref depth old ms).compliance = (addModules old ms).compliance := rfl

/-- compaction keeps every cover: an entry it drops is covered by one it keeps -/
theorem covers_build {pref : κ → κ → Bool} {depth : κ → Nat} (ha : Admissible pref) {old : Idx κ μ}
    {ms : List (μ × Summary κ)} {m : μ} {o : κ} (h : Covers pref (addModules old ms).oids m o) :
    Covers pref (build pref depth old ms).oids m o := by
  obtain ⟨k, hk, mods, h1, h2⟩ := h
  obtain ⟨⟨p, pm⟩, h3, h4, h5⟩ := compact_dominates depth ha.refl h1
  exact ⟨p, ha.trans _ _ _ h4 hk, pm, build_oids pref depth old ms ▸ h3, h5 m h2⟩

/-- **C18_cover** (generic): every OID of every indexed module is covered by a key that lists
the module. -/
theorem C18_cover_generic (pref : κ → κ → Bool) (depth : κ → Nat) (ha : Admissible pref)
    (old : Idx κ μ) (ms : List (μ × Summary κ)) (m : μ) (s : Summary κ) (hm : (m, s) ∈ ms)
    (o : κ) (ho : o ∈ s.oids) : Covers pref (build pref depth old ms).oids m o :=
  covers_build ha ⟨o, ha.refl o, (listed_addModules filled_oids).mpr (Or.inr ⟨s, hm, ho⟩)⟩

theorem admissible_dotPrefix : Admissible dotPrefix :=
  ⟨fun a => (dotPrefix_iff a a).mpr (List.prefix_refl _),
   fun a b c h1 h2 => (dotPrefix_iff a c).mpr (((dotPrefix_iff a b).mp h1).trans ((dotPrefix_iff b c).mp h2))⟩

theorem covers_dotPrefix_iff {d : List (Str × List Str)} {m o : Str} :
    Covers dotPrefix d m o ↔ ∃ k mods, (k, mods) ∈ d ∧ splitDot k <+: splitDot o ∧ m ∈ mods :=
  ⟨fun ⟨k, hk, mods, h1, h2⟩ => ⟨k, mods, h1, (dotPrefix_iff k o).mp hk, h2⟩,
   fun ⟨k, mods, h1, hk, h2⟩ => ⟨k, (dotPrefix_iff k o).mpr hk, mods, h1, h2⟩⟩

/-- **C18_cover** for the code's string test: the covering key is a *component-wise* prefix. -/
theorem C18_cover (old : Idx Str Str) (ms : List (Str × Summary Str)) (m : Str) (s : Summary Str)
    (hm : (m, s) ∈ ms) (o : Str) (ho : o ∈ s.oids) :
    ∃ k mods, (k, mods) ∈ (buildStr old ms).oids ∧ splitDot k <+: splitDot o ∧ m ∈ mods :=
  covers_dotPrefix_iff.mp (C18_cover_generic dotPrefix dotCount admissible_dotPrefix old ms m s hm o ho)

/-- **C18_only_own**: a module is listed under a key only if the old index listed it there or
one of its results defines that OID. -/
theorem C18_only_own (pref : κ → κ → Bool) (depth : κ → Nat) (old : Idx κ μ)
    (ms : List (μ × Summary κ)) (x : μ) (k : κ) (h : Listed (build pref depth old ms).oids x k) :
    Listed old.oids x k ∨ ∃ s, (x, s) ∈ ms ∧ k ∈ s.oids := by
  rw [build_oids] at h
  exact (listed_addModules filled_oids).mp (listed_mono compact_sub h)

/-- **C18_identity_sections**: each module is listed under its identity, enterprise and every
compliance OID. -/
theorem C18_identity_sections (pref : κ → κ → Bool) (depth : κ → Nat) (old : Idx κ μ)
    (ms : List (μ × Summary κ)) (m : μ) (s : Summary κ) (hm : (m, s) ∈ ms) :
    (∀ k, s.identity = some k → Listed (build pref depth old ms).identity m k) ∧
    (∀ k, s.enterprise = some k → Listed (build pref depth old ms).enterprise m k) ∧
    (∀ k, k ∈ s.compliance → Listed (build pref depth old ms).compliance m k) :=
  ⟨fun _ hk => (listed_addModules filled_identity).mpr (Or.inr ⟨s, hm, Option.mem_toList.mpr hk⟩),
   fun _ hk => (listed_addModules filled_enterprise).mpr (Or.inr ⟨s, hm, Option.mem_toList.mpr hk⟩),
   fun _ hk => (listed_addModules filled_compliance).mpr (Or.inr ⟨s, hm, hk⟩)⟩

/-- **C18_monotone**: building on top of an existing index keeps its identity, enterprise and
compliance entries and the cover of every OID it covered. -/
theorem C18_monotone (pref : κ → κ → Bool) (depth : κ → Nat) (ha : Admissible pref)
    (old : Idx κ μ) (ms : List (μ × Summary κ)) (x : μ) (k : κ) :
    (Listed old.identity x k → Listed (build pref depth old ms).identity x k) ∧
    (Listed old.enterprise x k → Listed (build pref depth old ms).enterprise x k) ∧
    (Listed old.compliance x k → Listed (build pref depth old ms).compliance x k) ∧
    (Covers pref old.oids x k → Covers pref (build pref depth old ms).oids x k) :=
  ⟨fun h => (listed_addModules filled_identity).mpr (Or.inl h),
   fun h => (listed_addModules filled_enterprise).mpr (Or.inl h),
   fun h => (listed_addModules filled_compliance).mpr (Or.inl h),
   fun ⟨k', hk, hl⟩ => covers_build ha ⟨k', hk, (listed_addModules filled_oids).mpr (Or.inl hl)⟩⟩

theorem C18_monotone_str (old : Idx Str Str) (ms : List (Str × Summary Str)) (x o : Str)
    (h : ∃ k mods, (k, mods) ∈ old.oids ∧ splitDot k <+: splitDot o ∧ x ∈ mods) :
    ∃ k mods, (k, mods) ∈ (buildStr old ms).oids ∧ splitDot k <+: splitDot o ∧ x ∈ mods :=
  covers_dotPrefix_iff.mp
    ((C18_monotone dotPrefix dotCount admissible_dotPrefix old ms x o).2.2.2 (covers_dotPrefix_iff.mpr h))

/-! ### non-vacuity and the witness against the plain string prefix -/

def cs (s : String) : Str := s.toList

/-- a concrete two-module input with digit-sharing siblings 4 / 48 -/
def exampleMods : List (Str × Summary Str) :=
  [ (cs "A", { identity := some (cs "1.3.4"), enterprise := none, compliance := [],
               oids := [cs "1.3.4", cs "1.3.48", cs "1.3.4.1"] }),
    (cs "B", { identity := none, enterprise := none, compliance := [cs "1.3.4.2"],
               oids := [cs "1.3.4.2"] }) ]

/-- With the component-wise test the keys kept for `exampleMods` are 1.3.4, 1.3.48, 1.3.4.2. -/
example : (buildStr Idx.empty exampleMods).oids.map (·.1) = [cs "1.3.4", cs "1.3.48", cs "1.3.4.2"] := by
  decide +kernel

/-- component-wise cover, as a decidable check on a concrete index -/
def coveredBy (d : List (Str × List Str)) (m o : Str) : Bool :=
  d.any (fun e => decide (splitDot e.1 <+: splitDot o) && decide (m ∈ e.2))

/-- **Witness (F23)**: with Python's plain `startswith` as the prefix test — the code before the
fix — the index for one module defining 1.3.4 and 1.3.48 does not cover 1.3.48. -/
theorem C18_cover_false_for_string_prefix :
    coveredBy (build strPrefix dotCount Idx.empty
      [(cs "A", { identity := none, enterprise := none, compliance := [],
                  oids := [cs "1.3.4", cs "1.3.48"] })]).oids (cs "A") (cs "1.3.48") = false := by
  decide +kernel

/-- … and the repaired test does cover it. -/
example :
    coveredBy (buildStr Idx.empty
      [(cs "A", { identity := none, enterprise := none, compliance := [],
                  oids := [cs "1.3.4", cs "1.3.48"] })]).oids (cs "A") (cs "1.3.48") = true := by
  decide +kernel

end Pysmi.Index
