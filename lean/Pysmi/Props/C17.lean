import Pysmi.Model.Grammar
import Pysmi.Props.C17Tables
import Pysmi.Model.LexCfg
import Pysmi.Props.C02LR
import Pysmi.Props.C11
/-!
# C17 — grammar relaxations only add accepted inputs

* `C17_simulation_sound`: if every production of grammar `P` is simulated in `P'` (present, or a
  one-level expansion of a production of `P'`), then everything derivable in `P` is derivable in
  `P'` — for token strings of any length.
* `C17_monotone_*`: that simulation holds (checked by the kernel over the productions **regenerated
  from the source on every run**) from the strict SMIv2 grammar to every single relaxation, from each
  of those to the fully relaxed dialect, and along smiV2 → smiV1 → smiV1Relaxed.
* `C17_tree_derivable`: a tree the LR driver returns is a derivation in the grammar, so "accepted
  under the smaller dialect" implies "derivable in the larger one".
* `C17_option_order_irrelevant` / `C17_options_disjoint`: the class synthesis of `parserFactory` / `lexerFactory`
  (later options overwrite members of earlier ones) does not depend on the order of the keyword arguments, because
  in the regenerated option tables no member is replaced by two options.
* `C17_unknown_option`: the option tables of lexer and parser factories list the same nine names.
* `C17_lexer_monotone`: the SMIv1 keyword option changes the lexer's word tables only at `MAX`
  (forbidden → reserved) and `NetworkAddress` (identifier → reserved): every text that contains neither
  word is scanned to the same token list (or the same located error) by both lexers.
* `C17_accept_monotone`: a text `parse` accepts under the strict lexer and any LR tables whose grammar is
  simulated by `P'` is, scanned by the SMIv1-keyword lexer, still derivable from the start symbol in `P'`.
-/
namespace Pysmi.Grammar

section
variable {σ : Type}

theorem rewrites_trans {P : Prods σ} {a b c : List σ} (h1 : Rewrites P a b) (h2 : Rewrites P b c) : Rewrites P a c := by
  induction h1 with
  | refl _ => exact h2
  | step hm _ ih => exact .step hm (ih h2)

theorem rewrites_context {P : Prods σ} {a b : List σ} (l r : List σ) (h : Rewrites P a b) :
    Rewrites P (l ++ a ++ r) (l ++ b ++ r) := by
  induction h with
  | refl _ => exact .refl _
  | @step l' r' A g b hm _ ih =>
    have := Rewrites.step (l := l ++ l') (r := r' ++ r) hm (by simpa only [List.append_assoc] using ih)
    simpa only [List.append_assoc] using this

theorem rewrites_single {P : Prods σ} {A : σ} {g : List σ} (h : (A, g) ∈ P) : Rewrites P [A] g := by
  simpa using Rewrites.step (l := []) (r := []) h (.refl _)

theorem rewrites_append {P : Prods σ} {a a' b b' : List σ} (h1 : Rewrites P a a') (h2 : Rewrites P b b') :
    Rewrites P (a ++ b) (a' ++ b') := by
  have s1 : Rewrites P (a ++ b) (a' ++ b) := by simpa using rewrites_context [] b h1
  have s2 : Rewrites P (a' ++ b) (a' ++ b') := by simpa using rewrites_context a' [] h2
  exact rewrites_trans s1 s2

theorem rewrites_mono {P P' : Prods σ} (h : ∀ {A g}, (A, g) ∈ P → Rewrites P' [A] g) {a b : List σ}
    (hd : Rewrites P a b) : Rewrites P' a b := by
  induction hd with
  | refl _ => exact .refl _
  | @step l r _ _ _ hm _ ih => exact rewrites_trans (rewrites_context l r (h hm)) ih

variable [DecidableEq σ]

theorem expand1_nil {P : Prods σ} {a : List σ} : expand1 P [] a = true ↔ a = [] := by simp [expand1]

/-- the head symbol accounts for a prefix `g` of `a`: itself, or one of its right-hand sides -/
theorem expand1_cons {P : Prods σ} {B : σ} {b a : List σ} : expand1 P (B :: b) a = true ↔
    ∃ g a', a = g ++ a' ∧ (g = [B] ∨ (B, g) ∈ P) ∧ expand1 P b a' = true := by
  constructor
  · intro h
    unfold expand1 at h
    rcases Bool.or_eq_true_iff.mp h with h | h
    · cases a with
      | nil => cases h
      | cons x a' =>
        simp only [Bool.and_eq_true, beq_iff_eq] at h
        exact ⟨[B], a', by rw [h.1]; rfl, .inl rfl, h.2⟩
    · obtain ⟨⟨A, g⟩, hm, hc⟩ := List.any_eq_true.mp h
      simp only [Bool.and_eq_true, beq_iff_eq, List.isPrefixOf_iff_prefix] at hc
      obtain ⟨⟨rfl, a', rfl⟩, hb⟩ := hc
      exact ⟨g, a', rfl, .inr hm, by simpa using hb⟩
  · rintro ⟨g, a', rfl, rfl | hm, h⟩ <;> unfold expand1 <;> apply Bool.or_eq_true_iff.mpr
    · exact .inl (by simpa using h)
    · exact .inr (List.any_eq_true.mpr ⟨(B, g), hm, by simpa using h⟩)

theorem expand1_sound {P : Prods σ} {b a : List σ} (h : expand1 P b a = true) : Rewrites P b a := by
  induction b generalizing a with
  | nil => rw [expand1_nil.mp h]; exact .refl _
  | cons B b ih =>
    obtain ⟨g, a', rfl, hg, h⟩ := expand1_cons.mp h
    have hB : Rewrites P [B] g := hg.elim (fun e => e ▸ .refl _) rewrites_single
    exact rewrites_append hB (ih h)

theorem simProd_sound {P' : Prods σ} {pr : σ × List σ} (h : simProd P' pr = true) : Rewrites P' [pr.1] pr.2 := by
  rcases simProd_iff.mp h with h | ⟨g, hg, h⟩
  · exact rewrites_single h
  · exact rewrites_trans (rewrites_single hg) (expand1_sound h)

/-- **C17_simulation_sound**: simulation of productions implies inclusion of everything derivable. -/
theorem C17_simulation_sound (P P' : Prods σ) (h : simAll P P' = true) (a b : List σ) (hd : Rewrites P a b) :
    Rewrites P' a b :=
  rewrites_mono (fun hm => simProd_sound (List.all_eq_true.mp h _ hm)) hd

/-! renaming symbols preserves simulation (no injectivity needed: the check only uses equalities positively) -/

variable {τ : Type} [DecidableEq τ] (f : σ → τ)

omit [DecidableEq σ] [DecidableEq τ] in
theorem mem_mapProds {P : Prods σ} {A : σ} {g : List σ} (h : (A, g) ∈ P) : (f A, g.map f) ∈ mapProds f P :=
  List.mem_map.mpr ⟨_, h, rfl⟩

theorem expand1_map {P : Prods σ} {b a : List σ} (h : expand1 P b a = true) :
    expand1 (mapProds f P) (b.map f) (a.map f) = true := by
  induction b generalizing a with
  | nil => rw [expand1_nil.mp h]; rfl
  | cons B b ih =>
    obtain ⟨g, a', rfl, hg, h⟩ := expand1_cons.mp h
    exact expand1_cons.mpr ⟨g.map f, a'.map f, List.map_append, hg.imp (congrArg (List.map f)) (mem_mapProds f), ih h⟩

theorem simProd_map {P' : Prods σ} {pr : σ × List σ} (h : simProd P' pr = true) :
    simProd (mapProds f P') (f pr.1, pr.2.map f) = true :=
  simProd_iff.mpr ((simProd_iff.mp h).imp (mem_mapProds f) fun ⟨g, hg, h⟩ => ⟨g.map f, mem_mapProds f hg, expand1_map f h⟩)

/-- simulation between interned grammars carries over to the grammars over symbol names -/
theorem simAll_map (P P' : Prods σ) (h : simAll P P' = true) : simAll (mapProds f P) (mapProds f P') = true := by
  apply List.all_eq_true.mpr
  intro x hx
  obtain ⟨pr, hpr, rfl⟩ := List.mem_map.mp hx
  exact simProd_map f (List.all_eq_true.mp h pr hpr)

end

end Pysmi.Grammar

namespace Pysmi.LR
open Pysmi.Grammar

def prodsOf (T : Tables) : Prods Sym := T.prods.toList.map (fun r => (r.lhs, r.rhs))

mutual
theorem tree_derivable (T : Tables) : ∀ (t : Tree), t.Valid T → Rewrites (prodsOf T) [t.sym] (t.frontier.map (·.ty))
  | .leaf tk, _ => .refl _
  | .node p l ks, ⟨⟨pr, hpr, hl, hr⟩, hks⟩ => by
    have hm : (l, ks.map Tree.sym) ∈ prodsOf T :=
      List.mem_map.mpr ⟨pr, Array.mem_toList_iff.mpr (Array.mem_of_getElem? hpr), by rw [hl, hr]⟩
    exact rewrites_trans (rewrites_single hm) (treesL_derivable T ks hks)
theorem treesL_derivable (T : Tables) : ∀ (ks : List Tree), ValidL T ks →
    Rewrites (prodsOf T) (ks.map Tree.sym) ((frontierL ks).map (·.ty))
  | [], _ => .refl _
  | k :: ks, ⟨hk, hks⟩ => by
    simpa [frontierL] using rewrites_append (tree_derivable T k hk) (treesL_derivable T ks hks)
end

/-- **C17_tree_derivable**: what the LR driver accepts (with any tables for grammar `T.prods`) is derivable
from the start symbol in that grammar; with `C17_simulation_sound` it is then derivable in every grammar
that simulates it. -/
theorem C17_tree_derivable (T : Tables) (fuel : Nat) (inp : List Token) (t : Tree) (h : run T fuel [] inp = .ok t)
    (P' : Prods Sym) (hsim : simAll (prodsOf T) P' = true) : Rewrites P' [T.start] (inp.map (·.ty)) := by
  obtain ⟨hv, hs, hf⟩ := C02_lr_sound T fuel inp t h
  have := tree_derivable T t hv
  rw [hs, hf] at this
  exact C17_simulation_sound _ _ hsim _ _ this

end Pysmi.LR

namespace Pysmi.Generated.Grammar
open Pysmi.Grammar

def symName (i : Nat) : String := symTable.getD i ""

/-- the grammar over symbol names of an interned production list -/
def named (P : Prods Nat) : Prods String := mapProds symName P

theorem monotone_of_sim {P P' : Prods Nat} (h : simAll P P' = true) {a b : List String} :
    Rewrites (named P) a b → Rewrites (named P') a b :=
  C17_simulation_sound _ _ (simAll_map symName P P' h) a b

/-- **C17_monotone_single**: from the strict SMIv2 grammar to the grammar with any single relaxation switched on
(over symbol names): everything derivable stays derivable. -/
theorem C17_monotone_single (a b : List String) :
    (Rewrites (named nprods_smiV2) a b → Rewrites (named nprods_supportSmiV1Keywords) a b) ∧
    (Rewrites (named nprods_smiV2) a b → Rewrites (named nprods_commaAtTheEndOfImport) a b) ∧
    (Rewrites (named nprods_smiV2) a b → Rewrites (named nprods_commaAtTheEndOfSequence) a b) ∧
    (Rewrites (named nprods_smiV2) a b → Rewrites (named nprods_mixOfCommasAndSpaces) a b) ∧
    (Rewrites (named nprods_smiV2) a b → Rewrites (named nprods_uppercaseIdentifier) a b) ∧
    (Rewrites (named nprods_smiV2) a b → Rewrites (named nprods_lowcaseIdentifier) a b) ∧
    (Rewrites (named nprods_smiV2) a b → Rewrites (named nprods_curlyBracesAroundEnterpriseInTrap) a b) ∧
    (Rewrites (named nprods_smiV2) a b → Rewrites (named nprods_noCells) a b) :=
  ⟨monotone_of_sim sim_smiV2_supportSmiV1Keywords, monotone_of_sim sim_smiV2_commaAtTheEndOfImport,
   monotone_of_sim sim_smiV2_commaAtTheEndOfSequence, monotone_of_sim sim_smiV2_mixOfCommasAndSpaces,
   monotone_of_sim sim_smiV2_uppercaseIdentifier, monotone_of_sim sim_smiV2_lowcaseIdentifier,
   monotone_of_sim sim_smiV2_curlyBracesAroundEnterpriseInTrap, monotone_of_sim sim_smiV2_noCells⟩

/-- **C17_monotone_to_relaxed**: from any single relaxation to all of them. -/
theorem C17_monotone_to_relaxed (a b : List String) :
    (Rewrites (named nprods_supportSmiV1Keywords) a b → Rewrites (named nprods_smiV1Relaxed) a b) ∧
    (Rewrites (named nprods_commaAtTheEndOfImport) a b → Rewrites (named nprods_smiV1Relaxed) a b) ∧
    (Rewrites (named nprods_commaAtTheEndOfSequence) a b → Rewrites (named nprods_smiV1Relaxed) a b) ∧
    (Rewrites (named nprods_mixOfCommasAndSpaces) a b → Rewrites (named nprods_smiV1Relaxed) a b) ∧
    (Rewrites (named nprods_uppercaseIdentifier) a b → Rewrites (named nprods_smiV1Relaxed) a b) ∧
    (Rewrites (named nprods_lowcaseIdentifier) a b → Rewrites (named nprods_smiV1Relaxed) a b) ∧
    (Rewrites (named nprods_curlyBracesAroundEnterpriseInTrap) a b → Rewrites (named nprods_smiV1Relaxed) a b) ∧
    (Rewrites (named nprods_noCells) a b → Rewrites (named nprods_smiV1Relaxed) a b) :=
  ⟨monotone_of_sim sim_supportSmiV1Keywords_smiV1Relaxed, monotone_of_sim sim_commaAtTheEndOfImport_smiV1Relaxed,
   monotone_of_sim sim_commaAtTheEndOfSequence_smiV1Relaxed, monotone_of_sim sim_mixOfCommasAndSpaces_smiV1Relaxed,
   monotone_of_sim sim_uppercaseIdentifier_smiV1Relaxed, monotone_of_sim sim_lowcaseIdentifier_smiV1Relaxed,
   monotone_of_sim sim_curlyBracesAroundEnterpriseInTrap_smiV1Relaxed, monotone_of_sim sim_noCells_smiV1Relaxed⟩

/-- **C17_monotone_dialects**: along the shipped dialects smiV2 ⊆ smiV1 ⊆ smiV1Relaxed. -/
theorem C17_monotone_dialects (a b : List String) :
    (Rewrites (named nprods_smiV2) a b → Rewrites (named nprods_smiV1) a b) ∧
    (Rewrites (named nprods_smiV1) a b → Rewrites (named nprods_smiV1Relaxed) a b) :=
  ⟨monotone_of_sim sim_smiV2_smiV1, monotone_of_sim sim_smiV1_smiV1Relaxed⟩

/-- **C17_unknown_option**: both factories know exactly the same option names (anything else is rejected with
the package error by the `not in relaxedGrammar` test of either factory). -/
theorem C17_unknown_option : parserOptions = lexerOptions := rfl

end Pysmi.Generated.Grammar

namespace Pysmi.Grammar

def DisjointTbl (tbl : List (String × List String)) : Prop :=
  ∀ e1 ∈ tbl, ∀ e2 ∈ tbl, ∀ f ∈ e1.2, f ∈ e2.2 → e1.1 = e2.1

instance (tbl : List (String × List String)) : Decidable (DisjointTbl tbl) := by unfold DisjointTbl; infer_instance

section
variable {tbl : List (String × List String)}

theorem lists_mem {o f : String} (h : lists tbl o f = true) : ∃ fs, (o, fs) ∈ tbl ∧ f ∈ fs := by
  unfold lists at h
  split at h
  · rename_i fs hl
    obtain ⟨l₁, l₂, rfl, -⟩ := List.lookup_eq_some_iff.mp hl
    exact ⟨fs, by simp, by simpa using h⟩
  · cases h

theorem lists_unique (hd : DisjointTbl tbl) {o1 o2 f : String}
    (h1 : lists tbl o1 f = true) (h2 : lists tbl o2 f = true) : o1 = o2 := by
  obtain ⟨fs1, m1, f1⟩ := lists_mem h1
  obtain ⟨fs2, m2, f2⟩ := lists_mem h2
  exact hd _ m1 _ m2 f f1 f2

/-- member `f` comes from the last option of the list that replaces it -/
theorem foldl_synthStep (f : String) (opts : List String) (acc : String → Option String) :
    (opts.foldl (synthStep tbl) acc) f = (opts.reverse.find? (lists tbl · f)).or (acc f) := by
  induction opts generalizing acc with
  | nil => rfl
  | cons o opts ih =>
    rw [List.foldl_cons, ih, List.reverse_cons, List.find?_append, Option.or_assoc]
    simp only [synthStep, List.find?_cons, List.find?_nil]
    cases lists tbl o f <;> rfl

theorem synth_eq_some (hd : DisjointTbl tbl) {opts : List String} {f o : String} :
    synth tbl opts f = some o ↔ o ∈ opts ∧ lists tbl o f = true := by
  rw [synth, foldl_synthStep, Option.or_none]
  constructor
  · intro h
    exact ⟨List.mem_reverse.mp (List.mem_of_find?_eq_some h), List.find?_some (p := (lists tbl · f)) h⟩
  · rintro ⟨hm, hl⟩
    cases h : opts.reverse.find? (lists tbl · f) with
    | none => exact absurd hl (List.find?_eq_none.mp h o (List.mem_reverse.mpr hm))
    | some o' => rw [lists_unique hd (List.find?_some (p := (lists tbl · f)) h) hl]

end

/-- **C17_option_order_irrelevant**: when no member is replaced by two options, the synthesised class does not
depend on the order (or repetition) in which the same options are switched on. -/
theorem C17_option_order_irrelevant (tbl : List (String × List String)) (hd : DisjointTbl tbl)
    (opts opts' : List String) (hsame : ∀ o, o ∈ opts ↔ o ∈ opts') : synth tbl opts = synth tbl opts' := by
  funext f
  apply Option.ext
  intro o
  rw [synth_eq_some hd, synth_eq_some hd, hsame]

/-- a factory sees of its keyword arguments only the names that are switched on, in call order -/
theorem factory_eq (tbl : List (String × List String)) (kw : List (String × Bool)) :
    factory tbl kw = match ((kw.filter (·.2)).map (·.1)).find? (fun o => (tbl.lookup o).isNone) with
      | some o => .error o
      | none => .ok (synth tbl ((kw.filter (·.2)).map (·.1))) := by
  rw [factory, List.find?_map, List.find?_filter]
  simp only [Function.comp_def, Bool.decide_and, Bool.decide_eq_true]
  cases kw.find? (fun p => p.2 && (tbl.lookup p.1).isNone) <;> rfl

theorem mem_switchedOn {kw : List (String × Bool)} {o : String} : o ∈ (kw.filter (·.2)).map (·.1) ↔ (o, true) ∈ kw := by
  simp only [List.mem_map, List.mem_filter]
  exact ⟨fun ⟨⟨a, b⟩, ⟨hm, hb⟩, ha⟩ => by cases ha; cases hb; exact hm, fun h => ⟨_, ⟨h, rfl⟩, rfl⟩⟩

/-- **C17_false_option_ignored**: an option passed as false - known or not, anywhere among the keyword arguments - is an
option not passed: the same class, or the same error. -/
theorem C17_false_option_ignored (tbl : List (String × List String)) (kw1 kw2 : List (String × Bool)) (o : String) :
    factory tbl (kw1 ++ (o, false) :: kw2) = factory tbl (kw1 ++ kw2) := by
  have : (kw1 ++ (o, false) :: kw2).filter (·.2) = (kw1 ++ kw2).filter (·.2) := by simp
  rw [factory_eq, factory_eq, this]

/-- **C17_unknown_rejected**: an option that is switched on and not in the table ends the call with an error naming an
unknown option. -/
theorem C17_unknown_rejected (tbl : List (String × List String)) (kw : List (String × Bool)) (o : String)
    (hm : (o, true) ∈ kw) (hu : tbl.lookup o = none) : ∃ e, factory tbl kw = .error e ∧ tbl.lookup e = none := by
  rw [factory_eq]
  cases h : ((kw.filter (·.2)).map (·.1)).find? (fun o => (tbl.lookup o).isNone) with
  | none => exact absurd (by rw [hu]; rfl) (List.find?_eq_none.mp h o (mem_switchedOn.mpr hm))
  | some e => exact ⟨e, rfl, Option.isNone_iff_eq_none.mp (List.find?_some (p := fun o => (tbl.lookup o).isNone) h)⟩

/-- **C17_known_accepted**: when every option that is switched on is in the table the call succeeds, and the class is the
one synthesised from exactly those options in keyword order. -/
theorem C17_known_accepted (tbl : List (String × List String)) (kw : List (String × Bool))
    (hk : ∀ p ∈ kw, p.2 = true → (tbl.lookup p.1).isSome = true) :
    factory tbl kw = .ok (synth tbl ((kw.filter (·.2)).map (·.1))) := by
  rw [factory_eq, List.find?_eq_none.mpr]
  intro o ho hn
  have := hk (o, true) (mem_switchedOn.mp ho) rfl
  rw [Option.isNone_iff_eq_none.mp hn] at this
  cases this

/-- **C17_factory_order_irrelevant**: two calls that switch on the same options - in any order, with any options passed as
false in between - build the same class (no member being replaced by two options). -/
theorem C17_factory_order_irrelevant (tbl : List (String × List String)) (hd : DisjointTbl tbl)
    (kw kw' : List (String × Bool)) (hsame : ∀ o, (o, true) ∈ kw ↔ (o, true) ∈ kw')
    (c c' : String → Option String) (h : factory tbl kw = .ok c) (h' : factory tbl kw' = .ok c') : c = c' := by
  rw [factory_eq] at h h'
  split at h <;> split at h' <;> cases h <;> cases h'
  exact C17_option_order_irrelevant tbl hd _ _ fun o => by rw [mem_switchedOn, mem_switchedOn, hsame]

end Pysmi.Grammar

namespace Pysmi.Generated.Grammar
open Pysmi.Grammar
/-- **C17_options_disjoint**: in the tables regenerated from the source no grammar function and no lexer member is
replaced by two different options. -/
theorem C17_options_disjoint : DisjointTbl optionFuncs ∧ DisjointTbl lexerOptionMembers := by decide +kernel

theorem C17_parser_order_irrelevant (opts opts' : List String) (h : ∀ o, o ∈ opts ↔ o ∈ opts') :
    synth optionFuncs opts = synth optionFuncs opts' ∧ synth lexerOptionMembers opts = synth lexerOptionMembers opts' :=
  ⟨C17_option_order_irrelevant _ C17_options_disjoint.1 _ _ h, C17_option_order_irrelevant _ C17_options_disjoint.2 _ _ h⟩

example : synth optionFuncs ["mixOfCommasAndSpaces", "noCells"] "p_enumItems" = some "mixOfCommasAndSpaces" := by decide +kernel

/-- both factories, on the regenerated tables: options passed as false change nothing -/
theorem C17_factories_false_ignored (kw1 kw2 : List (String × Bool)) (o : String) :
    factory optionFuncs (kw1 ++ (o, false) :: kw2) = factory optionFuncs (kw1 ++ kw2) ∧
    factory lexerOptionMembers (kw1 ++ (o, false) :: kw2) = factory lexerOptionMembers (kw1 ++ kw2) :=
  ⟨C17_false_option_ignored _ _ _ _, C17_false_option_ignored _ _ _ _⟩

example : (match factory optionFuncs [("noCells", true), ("bogus", false), ("supportIndex", false)] with
           | .ok c => c "p_CreationPart" | .error _ => none) = some "noCells" := by decide +kernel
example : (match factory optionFuncs [("noCells", true), ("bogus", true)] with | .ok _ => "" | .error e => e) = "bogus" := by decide +kernel
end Pysmi.Generated.Grammar

namespace Pysmi.Lexer

/-- no suffix of the text starts with one of the words `ws` (as the longest upper-case-identifier match) -/
def avoids (ws : List Str) : Str → Bool
  | [] => true
  | c :: cs => (match matchUpper (c :: cs) with
      | some n => !ws.contains ((c :: cs).take n)
      | none => true) && avoids ws cs

theorem avoids_drop {ws : List Str} : ∀ {s : Str}, avoids ws s = true → ∀ k, avoids ws (s.drop k) = true
  | _, h, 0 => h
  | [], h, _ + 1 => h
  | c :: cs, h, k + 1 => avoids_drop (by unfold avoids at h; exact (Bool.and_eq_true_iff.mp h).2) k

theorem find_filter {ws : List Str} {w : Str} (hw : ws.contains w = false) (l : List (Str × String)) :
    (l.filter (fun e => !ws.contains e.1)).find? (·.1 == w) = l.find? (·.1 == w) := by
  rw [List.find?_filter]
  congr 1; funext e
  by_cases h : e.1 = w
  · simpa [h] using hw
  · simp [h]

theorem contains_filter {ws : List Str} {w : Str} (hw : ws.contains w = false) (l : List Str) :
    (l.filter (fun e => !ws.contains e)).contains w = l.contains w := by
  rw [List.contains_filter, List.contains_eq_any_beq]
  congr 1; funext e
  by_cases h : w = e
  · simpa [← h] using hw
  · simp [h]

/-- the two configurations have the same word tables once the entries for the words `ws` are taken out -/
structure AgreeOff (ws : List Str) (cfg cfg' : Cfg) : Prop where
  u32 : cfg.u32 = cfg'.u32
  u64 : cfg.u64 = cfg'.u64
  mer : cfg.macroErrorRule = cfg'.macroErrorRule
  forb : cfg.forbidden.filter (fun e => !ws.contains e) = cfg'.forbidden.filter (fun e => !ws.contains e)
  res : cfg.reserved.filter (fun e => !ws.contains e.1) = cfg'.reserved.filter (fun e => !ws.contains e.1)

/-- `step` looks at the word tables only for the word `matchUpper` finds: configurations that agree off `ws` take the same
step wherever that word is not in `ws` -/
theorem AgreeOff.step_eq {ws : List Str} {cfg cfg' : Cfg} (h : AgreeOff ws cfg cfg') {st : LexState} {line : Nat} {c : Char} {cs : Str}
    (hav : avoids ws (c :: cs) = true) : step cfg st line (c :: cs) = step cfg' st line (c :: cs) := by
  have e1 : classifyNumber cfg = classifyNumber cfg' := by funext v; simp [classifyNumber, h.u32, h.u64]
  unfold avoids at hav
  cases hmu : matchUpper (c :: cs) with
  | none => unfold step; simp only [hmu, e1, h.mer]
  | some n =>
    have hw : ws.contains ((c :: cs).take n) = false := by simpa [hmu] using (Bool.and_eq_true_iff.mp hav).1
    have hf := contains_filter hw cfg'.forbidden
    have hr := find_filter hw cfg'.reserved
    rw [← h.forb, contains_filter hw] at hf
    rw [← h.res, find_filter hw] at hr
    unfold step; simp only [hmu, h.mer, hf, hr]

theorem lexLoop_agree {ws : List Str} {cfg cfg' : Cfg} (h : AgreeOff ws cfg cfg') :
    ∀ {fuel : Nat} {st : LexState} {line : Nat} {s : Str} {acc : List Tok}, avoids ws s = true →
      lexLoop cfg fuel st line s acc = lexLoop cfg' fuel st line s acc
  | 0, _, _, _, _, _ => rfl
  | _ + 1, _, _, [], _, _ => rfl
  | fuel + 1, st, line, c :: cs, acc, hav => by
    rw [lexLoop_cons, lexLoop_cons, h.step_eq hav]
    cases step cfg' st line (c :: cs) with
    | err k => rfl
    | tok t n next lines => exact lexLoop_agree h (avoids_drop hav _)
    | skip n next lines => exact lexLoop_agree h (avoids_drop hav _)

theorem collect_agree {ws : List Str} {cfg cfg' : Cfg} (h : AgreeOff ws cfg cfg') :
    ∀ {fuel : Nat} {st : LexState} {line : Nat} {s : Str} {acc : List Tok}, avoids ws s = true →
      Pysmi.LR.collect cfg fuel st line s acc = Pysmi.LR.collect cfg' fuel st line s acc
  | 0, _, _, _, _, _ => rfl
  | _ + 1, _, _, [], _, _ => rfl
  | fuel + 1, st, line, c :: cs, acc, hav => by
    rw [Pysmi.LR.collect, Pysmi.LR.collect, h.step_eq hav]
    cases step cfg' st line (c :: cs) with
    | err k => rfl
    | tok t n next lines => exact collect_agree h (avoids_drop hav _)
    | skip n next lines => exact collect_agree h (avoids_drop hav _)

def v1Words : List Str := ["MAX".toList, "NetworkAddress".toList]

theorem contains_map_toList (ws : List String) (a : String) : (ws.map String.toList).contains a.toList = ws.contains a := by
  simp only [List.contains_eq_any_beq, List.any_map, Function.comp_def]
  congr 1; funext b
  rw [Bool.eq_iff_iff, beq_iff_eq, beq_iff_eq, String.toList_inj]

/-- Word tables that are the same once the words `ws` are taken out give configurations that agree off `ws`.  The comparison
is left on `String`s: the kernel compares string literals far more cheaply than it computes their `toList`. -/
theorem agreeOff_cfgOfTables {ws : List String} {r r' : List (String × String)} {f f' : List String}
    (hr : r.filter (fun e => !ws.contains e.1) = r'.filter (fun e => !ws.contains e.1))
    (hf : f.filter (fun e => !ws.contains e) = f'.filter (fun e => !ws.contains e)) :
    AgreeOff (ws.map String.toList) (cfgOfTables r f) (cfgOfTables r' f') where
  u32 := rfl
  u64 := rfl
  mer := rfl
  forb := by simp only [cfgOfTables, List.filter_map, Function.comp_def, contains_map_toList, hf]
  res := by simp only [cfgOfTables, List.filter_map, Function.comp_def, contains_map_toList, hr]

theorem agree_v2_v1 : AgreeOff v1Words cfgV2 cfgV1 :=
  agreeOff_cfgOfTables (ws := ["MAX", "NetworkAddress"]) (by decide +kernel) (by decide +kernel)

/-- **C17_lexer_monotone**: a text that nowhere contains the two words the SMIv1-keyword lexer adds (`MAX`,
`NetworkAddress`) gives the same outcome - token list or located error - under both lexers; the tables are the
regenerated ones, compared by the kernel. -/
theorem C17_lexer_monotone (s : Str) (h : avoids v1Words s = true) : lexAll cfgV1 s = lexAll cfgV2 s := by
  unfold lexAll
  rw [lexLoop_agree agree_v2_v1 h]

/-- … and with the same LR tables and actions the whole `parse` is the same -/
theorem C17_parse_same_lexer_option (T : Pysmi.LR.Tables) (A : Pysmi.LR.Actions) (s : Str) (h : avoids v1Words s = true) :
    Pysmi.LR.parse cfgV1 T A s = Pysmi.LR.parse cfgV2 T A s := by
  unfold Pysmi.LR.parse
  rw [collect_agree agree_v2_v1 h]

-- `String.toList_ofList` reads the characters off the literal; left to the kernel, `toList` decodes it at a cost quadratic in its length
example : avoids v1Words "a OBJECT-TYPE SYNTAX Counter32 MAX-ACCESS read-only".toList = true := by
  rw [String.toList_ofList]; decide +kernel
example : avoids v1Words "SYNTAX NetworkAddress".toList = false := by rw [String.toList_ofList]; decide +kernel
end Pysmi.Lexer

namespace Pysmi.LR
open Pysmi.Grammar Pysmi.Lexer

theorem collect_ok_lexLoop {cfg : Lexer.Cfg} : ∀ {fuel : Nat} {st : LexState} {line : Nat} {s : List Char} {acc toks : List Lexer.Tok}
    {l : Nat}, collect cfg fuel st line s acc = (toks, none, l) →
    lexLoop cfg fuel st line s acc = .error .outOfFuel ∨ ∃ st', lexLoop cfg fuel st line s acc = .ok (toks, st', l)
  | 0, _, _, _, _, _, _ => fun _ => .inl rfl
  | _ + 1, st, _, [], _, _, _ => fun hc => by cases hc; exact .inr ⟨st, rfl⟩
  | fuel + 1, st, line, c :: cs, acc, toks, l => by
    rw [collect, lexLoop_cons]
    cases step cfg st line (c :: cs) with
    | err k => nofun
    | tok t n next lines => exact collect_ok_lexLoop
    | skip n next lines => exact collect_ok_lexLoop

/-- **C17_accept_monotone**: acceptance under the smaller dialect (strict lexer, any LR tables `T`) implies that the
token string the larger dialect's lexer produces is a sentence of every grammar `P'` that simulates `T`'s — for texts
not using the words the larger dialect reserves. (That PLY's LALR tables for `P'` find *the same tree* is tied by
correspondence, not proved: partial.) -/
theorem C17_accept_monotone (T : Tables) (A : Actions) (text : List Char) (ast : Py.PyVal)
    (hacc : parse cfgV2 T A text = .modules ast) (hav : avoids v1Words text = true)
    (P' : Prods Sym) (hsim : simAll (prodsOf T) P' = true) :
    ∃ toks, lexAll cfgV1 text = .ok toks ∧ Rewrites P' [T.start] (toks.map (·.ty)) := by
  cases hc : collect cfgV2 (text.length + 1) .initial 1 text [] with
  | mk toks rest =>
    obtain ⟨lexErr, eofLine⟩ := rest
    obtain ⟨hnone, tree, hrun, -⟩ := C11_accept_means_complete cfgV2 T A text ast hacc toks lexErr eofLine hc
    subst hnone
    obtain ⟨st', hl⟩ := (collect_ok_lexLoop hc).resolve_left
      (C11_lexer_terminates cfgV2 _ _ _ _ _ (Nat.lt_succ_self _))
    refine ⟨toks, by rw [C17_lexer_monotone text hav]; unfold lexAll; rw [hl]; rfl, ?_⟩
    simpa [parserInput, tokOf, Function.comp_def] using C17_tree_derivable T _ _ tree hrun P' hsim

end Pysmi.LR
