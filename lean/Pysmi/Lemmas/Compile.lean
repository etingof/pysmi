import Pysmi.Model.Compile
import Pysmi.Lemmas.AList
/-!
How the `compile` model is taken apart for proofs.

*Discovery* only ever changes the state by five moves: logging a call, `failSource`, `markMissing`, and - inside
`registerTree` - storing a parsed tree and `clearStale`; the rest is the work list.  `trySources_post` /
`trySources_induction` and `discover_induction` carry any predicate kept by these moves through the loops, so an
invariant is proved by saying what each move does to it, never by walking `trySources` / `symTrees` / `discover` again.

*Phases 2-6* are folds of one step function over the keys of a dictionary.  Each step has one equation (`*_eq`): it looks
its key up and, if it is there, replaces some fields.  A step for key `k` leaves what the dictionaries hold for any other
name alone (`St.view`, `*_view`) and adds calls of a known kind to the trace (`Adds`, `*_trace`); what it does to `k`
itself is property specific and stays with the properties.
-/
namespace Pysmi.Compile
open Pysmi

def Call.isPut : Call → Bool
  | .put _ _ _ => true
  | _ => false

def Call.isGet : Call → Bool
  | .get _ _ => true
  | _ => false

/-- the calls of a loop that asks the members of `l` in turn (`call j` for the one at position `j`) and stops after the
first for which `p` holds; `L` is any function with the two equations of such a loop -/
theorem firstHit_calls {α : Type} {p : α → Bool} (call : Nat → Call) (L : List α → Nat → List Call)
    (nil : ∀ i, L [] i = []) (cons : ∀ a l i, L (a :: l) i = call i :: if p a then [] else L l (i + 1)) :
    ∀ l i, L l i = (List.range (min (l.findIdx p + 1) l.length)).map (fun j => call (i + j))
  | [], i => by simp [nil]
  | a :: l, i => by
    rw [cons, List.findIdx_cons]
    cases p a
    · rw [if_neg Bool.false_ne_true, firstHit_calls call L nil cons l (i + 1), cond_false, List.length_cons,
        Nat.add_min_add_right, List.range_succ_eq_map, List.map_cons, List.map_map]
      simp [Function.comp_def, Nat.add_assoc, Nat.add_comm 1]
    · simp

theorem searchLoop_calls (n : Name) (mtime : Int) (rebuild : Bool) (srs : List (Name → Int → Bool → SearchAns)) (i : Nat) :
    (searchLoop n mtime rebuild srs i).2 =
      (List.range (min (srs.findIdx (fun sr => sr n mtime rebuild == .notModified) + 1) srs.length)).map
        (fun j => Call.search (i + j) n mtime rebuild) :=
  firstHit_calls (Call.search · n mtime rebuild) (fun l i => (searchLoop n mtime rebuild l i).2) (fun _ => rfl)
    (fun a l i => by rw [searchLoop]; cases a n mtime rebuild <;> rfl) srs i

/-- borrower `b` has `n` in the flavour asked for -/
def delivers (n : Name) (g : Bool) (b : Name → Bool → BorrowAns) : Bool :=
  match b n g with
  | .ok _ _ _ => true
  | .error => false

theorem borrowLoop_calls (n : Name) (g : Bool) (bs : List (Name → Bool → BorrowAns)) (i : Nat) :
    (borrowLoop n g bs i).2 =
      (List.range (min (bs.findIdx (delivers n g) + 1) bs.length)).map (fun j => Call.borrow (i + j) n g) :=
  firstHit_calls (Call.borrow · n g) (fun l i => (borrowLoop n g l i).2) (fun _ => rfl)
    (fun a l i => by rw [borrowLoop, delivers]; cases a n g <;> rfl) bs i

/-- neither a lookup nor a hand-over to the writer: all that the phases between discovery and the gate log -/
def Call.Late (x : Call) : Prop := x.isGet = false ∧ x.isPut = false

theorem late_gen {tree : Nat} {g : Bool} : ∀ x ∈ [Call.gen tree g], x.Late :=
  fun _ hx => List.mem_singleton.mp hx ▸ ⟨rfl, rfl⟩

theorem searchLoop_late {n : Name} {mtime : Int} {rebuild : Bool} {srs : List (Name → Int → Bool → SearchAns)} {i : Nat} :
    ∀ x ∈ (searchLoop n mtime rebuild srs i).2, x.Late := fun x hx => by
  obtain ⟨j, -, rfl⟩ := List.mem_map.mp (searchLoop_calls .. ▸ hx); exact ⟨rfl, rfl⟩

theorem borrowLoop_late {n : Name} {g : Bool} {bs : List (Name → Bool → BorrowAns)} {i : Nat} :
    ∀ x ∈ (borrowLoop n g bs i).2, x.Late := fun x hx => by
  obtain ⟨j, -, rfl⟩ := List.mem_map.mp (borrowLoop_calls .. ▸ hx); exact ⟨rfl, rfl⟩

/-- core's `List.foldlRecOn` with the step first, so that the predicate is read off the step lemma -/
theorem foldl_induction {α σ} {P : σ → Prop} {f : σ → α → σ} {l : List α} (hf : ∀ s, ∀ a ∈ l, P s → P (f s a))
    {s : σ} (h : P s) : P (l.foldl f s) :=
  List.foldlRecOn l f h fun s hs a ha => hf s a ha hs

/-- a fold that keeps `B` until it reaches `n`, turns it into `A` there and keeps `A` from then on -/
theorem foldl_reaches {α σ} {A B : σ → Prop} {f : σ → α → σ} {n : α} (hA : ∀ s a, A s → A (f s a))
    (hB : ∀ s a, a ≠ n → B s → B (f s a)) (hn : ∀ s, B s → A (f s n)) {l : List α} {s : σ}
    (h : A s ∨ (B s ∧ n ∈ l)) : A (l.foldl f s) := by
  induction l generalizing s with
  | nil => exact h.resolve_right (fun h => nomatch h.2)
  | cons a l ih =>
    refine ih (h.elim (fun h => Or.inl (hA s a h)) fun ⟨hb, hm⟩ => ?_)
    by_cases ha : a = n
    · exact Or.inl (ha ▸ hn s hb)
    · exact Or.inr ⟨hB s a ha hb, (List.mem_cons.mp hm).resolve_left (Ne.symm ha)⟩

theorem foldl_drains {ν} {f : St → Name → St} (g : St → AList Name ν) (hf : ∀ s k, g (f s k) = (g s).del k) {s : St} :
    g ((g s).keys.foldl f s) = [] := by
  have : ∀ (l : List Name) (s : St), g (l.foldl f s) = l.foldl (fun d k => d.del k) (g s) := by
    intro l
    induction l with
    | nil => intro s; rfl
    | cons a l ih => intro s; rw [List.foldl_cons, ih, hf]; rfl
  rw [this, AList.foldl_del_keys]

/-- the `else` of `for source in self._sources`: no source delivered `n` -/
def markMissing (s : St) (n : Name) : St :=
  { s with failed := if s.failed.contains n then s.failed else s.failed.set n (),
           processed := if s.processed.contains n then s.processed else s.processed.set n { st := .missing } }

theorem trySources_nil (c : Cfg) (req : List Name) (n : Name) (i : Nat) (s : St) :
    trySources c req n [] i s = markMissing s n := by
  unfold trySources markMissing
  simp only
  split <;> split <;> rfl

theorem markMissing_failed {s : St} {n x : Name} :
    (markMissing s n).failed.contains x = true ↔ n = x ∨ s.failed.contains x = true :=
  AList.contains_setDefault_iff ..

theorem clearStale_eq (s : St) (k : Name) :
    clearStale s k = { s with failed := if s.failed.contains k then s.failed.del k else s.failed,
                              processed := if s.failed.contains k then s.processed.del k else s.processed } := by
  unfold clearStale; split <;> rfl

theorem clearStale_failed {s : St} {k : Name} : (clearStale s k).failed = s.failed.del k := by
  rw [clearStale_eq]
  cases h : s.failed.contains k
  · exact (AList.del_of_get?_none (by simpa [AList.contains] using h)).symm
  · rfl

theorem registerTree_eq (req : List Name) (s : St) (n alias : Name) (mtime : Int) (tree : Nat) (name : Name)
    (imports : List Name) :
    registerTree req s n alias mtime tree name imports =
      let s1 := clearStale (clearStale { s with parsed := s.parsed.set name (alias, mtime, tree) } n) name
      { s1 with queue := s1.queue ++ imports,
                canonical := if (n ∈ req ∨ alias ∈ req) ∧ name ∉ s1.canonical then s1.canonical ++ [name]
                             else s1.canonical } := by
  unfold registerTree
  simp only
  split <;> rfl

section
variable {req : List Name} {s : St} {n alias : Name} {mtime : Int} {tree : Nat} {name : Name} {imports : List Name}

theorem registerTree_parsed :
    (registerTree req s n alias mtime tree name imports).parsed = s.parsed.set name (alias, mtime, tree) := by
  simp only [registerTree_eq, clearStale_eq]

theorem registerTree_queue : (registerTree req s n alias mtime tree name imports).queue = s.queue ++ imports := by
  simp only [registerTree_eq, clearStale_eq]

theorem registerTree_fetched : (registerTree req s n alias mtime tree name imports).fetched = s.fetched := by
  simp only [registerTree_eq, clearStale_eq]

theorem registerTree_trace : (registerTree req s n alias mtime tree name imports).trace = s.trace := by
  simp only [registerTree_eq, clearStale_eq]

theorem registerTree_failed : (registerTree req s n alias mtime tree name imports).failed = (s.failed.del n).del name := by
  rw [registerTree_eq]
  exact clearStale_failed.trans (congrArg (·.del name) clearStale_failed)

end

section
variable {c : Cfg} {req : List Name}

theorem symTrees_induction {P : St → Prop} {n alias : Name} {mtime : Int} {ts : List Nat}
    (log : ∀ {s t}, P s → P (s.log (.sym t)))
    (reg : ∀ {t name imps s}, t ∈ ts → c.sym t = .ok name imps → P s → P (registerTree req s n alias mtime t name imps))
    {s : St} (h : P s) : P (symTrees c req n alias mtime ts s).1 := by
  induction ts generalizing s with
  | nil => exact h
  | cons t ts ih =>
    unfold symTrees
    cases hs : c.sym t with
    | error => exact log h
    | ok name imps => exact ih (fun ht' => reg (List.mem_cons_of_mem _ ht')) (reg List.mem_cons_self hs (log h))

/-- **one lookup**.  `P j` speaks of the state when `j` sources have been asked (of `m` in all).  Asking source `j` leads
from `P j` to `P (j + 1)`; `P j` is kept by logging any other call, by `failSource` and by registering any tree a file of
one of the sources yields for `n`.  The lookup ends either with `markMissing`, all sources asked, or right after the
trees of a file were all registered, and `Q` holds in both cases. -/
theorem trySources_post (n : Name) {P : Nat → St → Prop} {Q : St → Prop} {m : Nat} {srcs : List (Name → SrcAns)}
    (ask : ∀ {j s}, j < m → P j s → P (j + 1) (s.log (.get j n)))
    (log : ∀ {j s k}, k.isGet = false → k.isPut = false → P j s → P j (s.log k))
    (fail : ∀ {j s e}, P j s → P j (failSource s n e)) (miss : ∀ {s}, P m s → Q (markMissing s n))
    (reg : ∀ {src alias mtime text ts t name imps j s}, src ∈ srcs → src n = .ok alias mtime text → c.parse text = .trees ts →
      t ∈ ts → c.sym t = .ok name imps → P j s → P j (registerTree req s n alias mtime t name imps))
    (found : ∀ {src alias mtime text ts j s s'}, src ∈ srcs → src n = .ok alias mtime text → c.parse text = .trees ts →
      ts ≠ [] → symTrees c req n alias mtime ts s = (s', none) → P j s' → Q s')
    {i : Nat} {s : St} (hm : i + srcs.length = m) (h : P i s) : Q (trySources c req n srcs i s) := by
  induction srcs generalizing i s with
  | nil => exact trySources_nil c req n i s ▸ miss (hm ▸ h)
  | cons src rest ih =>
    have ih := fun {s} => ih (fun hs' => reg (List.mem_cons_of_mem _ hs'))
      (fun hs' => found (List.mem_cons_of_mem _ hs')) (i := i + 1) (s := s)
      (by rw [← hm, List.length_cons]; omega)
    have h1 := ask (by rw [← hm, List.length_cons]; omega) h
    unfold trySources
    simp only
    split
    · exact ih h1
    · exact ih (fail h1)
    · rename_i alias mtime text hsrc
      have h2 := log (k := .parse text) rfl rfl h1
      split
      · exact ih (fail h2)
      · exact ih (fail h2)
      · rename_i ts hne hp
        have h3 := symTrees_induction (P := P (i + 1)) (log rfl rfl) (reg List.mem_cons_self hsrc hp) h2
        split
        · rename_i hst; rw [hst] at h3; exact ih (fail h3)
        · rename_i hst; rw [hst] at h3
          exact found List.mem_cons_self hsrc hp hne hst h3

theorem trySources_induction (n : Name) {P : St → Prop} {srcs : List (Name → SrcAns)}
    (log : ∀ {s k}, k.isPut = false → P s → P (s.log k))
    (fail : ∀ {s e}, P s → P (failSource s n e)) (miss : ∀ {s}, P s → P (markMissing s n))
    (reg : ∀ {src alias mtime text ts t name imps s}, src ∈ srcs → src n = .ok alias mtime text → c.parse text = .trees ts →
      t ∈ ts → c.sym t = .ok name imps → P s → P (registerTree req s n alias mtime t name imps))
    {i : Nat} {s : St} (h : P s) : P (trySources c req n srcs i s) :=
  trySources_post n (P := fun _ => P) (fun _ => log (k := .get _ n) rfl) (fun _ => log) fail miss reg (fun _ _ _ _ _ h => h) rfl h

end

theorem trySources_fetched (c : Cfg) (req : List Name) (n : Name) (srcs : List (Name → SrcAns)) (i : Nat) (s : St) :
    (trySources c req n srcs i s).fetched = s.fetched :=
  trySources_induction n (P := fun s' => s'.fetched = s.fetched) (fun _ h => h) (fun h => h) (fun h => h)
    (fun _ _ _ _ _ h => registerTree_fetched.trans h) rfl

theorem discoverStep_cases {P : St → Prop} {c : Cfg} {req : List Name} {n : Name} {s : St}
    (skip : s.parsed.contains n = true ∨ s.failed.contains n = true ∨ n ∈ s.fetched → P s)
    (lookup : s.parsed.contains n = false → s.failed.contains n = false → n ∉ s.fetched →
      P (trySources c req n c.sources 0 { s with fetched := n :: s.fetched })) :
    P (discoverStep c req n s) := by
  unfold discoverStep
  cases hp : s.parsed.contains n
  · cases hf : s.failed.contains n
    · by_cases hn : n ∈ s.fetched
      · simpa [hn] using skip (.inr (.inr hn))
      · simpa [hn] using lookup hp hf hn
    · simpa using skip (.inr (.inl hf))
  · simpa using skip (.inl hp)

theorem discover_induction {P : St → Prop} {c : Cfg} {req : List Name}
    (skip : ∀ {s n q}, s.queue = n :: q → s.parsed.contains n = true ∨ s.failed.contains n = true ∨ n ∈ s.fetched →
      P s → P { s with queue := q })
    (lookup : ∀ {s n q}, s.queue = n :: q → s.parsed.contains n = false → s.failed.contains n = false → n ∉ s.fetched →
      P s → P (trySources c req n c.sources 0 { s with queue := q, fetched := n :: s.fetched }))
    {fuel : Nat} {s s' : St} (h : P s) (hd : discover c req fuel s = some s') : P s' ∧ s'.queue = [] := by
  induction fuel generalizing s with
  | zero => simp [discover] at hd
  | succ fuel ih =>
    unfold discover at hd
    split at hd
    · rename_i hq; cases hd; exact ⟨h, hq⟩
    · rename_i n q hq
      exact ih (discoverStep_cases (skip hq · h) (lookup (s := s) hq · · · h)) hd

/-- an invariant that does not look at the work list, the looked-up list or the canonical names: it is enough to say what
the five moves do to it -/
theorem discover_inv {P : St → Prop} {c : Cfg} {req : List Name}
    (lists : ∀ {s q f cn}, P s → P { s with queue := q, fetched := f, canonical := cn })
    (log : ∀ {s k}, k.isPut = false → P s → P (s.log k))
    (fail : ∀ {s n e}, P s → P (failSource s n e)) (miss : ∀ {s n}, P s → P (markMissing s n))
    (store : ∀ {s name r}, P s → P { s with parsed := s.parsed.set name r })
    (clear : ∀ {s k}, P s → P { s with failed := s.failed.del k, processed := s.processed.del k })
    {fuel : Nat} {s s' : St} (h : P s) (hd : discover c req fuel s = some s') : P s' := by
  have stale : ∀ {s k}, P s → P (clearStale s k) := fun {s k} h => by
    unfold clearStale
    split
    · exact clear h
    · exact h
  refine (discover_induction (fun _ _ h => lists h) (fun _ _ _ _ h => ?_) h hd).1
  refine trySources_induction _ log fail miss (fun _ _ _ _ _ h => ?_) (lists h)
  rw [registerTree_eq]
  exact lists (stale (stale (store h)))

section
variable (c : Cfg) (req : List Name) (o : Opts) (s : St) (k : Name)

/-- phase 2 drops a module that a searcher reports up to date or that `noDeps` excludes -/
def needDrops (mtime : Int) : Bool :=
  (searchLoop k mtime o.rebuild c.searchers 0).1 || (o.noDeps && decide (k ∉ s.canonical))

theorem needStep_eq :
    needStep c o s k =
      match s.parsed.get? k with
      | none => s
      | some (_, mtime, _) =>
        { s with trace := s.trace ++ (searchLoop k mtime o.rebuild c.searchers 0).2,
                 parsed := if needDrops c o s k mtime then s.parsed.del k else s.parsed,
                 processed := if needDrops c o s k mtime then s.processed.set k { st := .untouched }
                              else s.processed } := by
  unfold needStep needDrops
  cases s.parsed.get? k with
  | none => rfl
  | some r =>
    simp only
    cases (searchLoop k r.2.1 o.rebuild c.searchers 0).1
    · by_cases h : o.noDeps = true ∧ k ∉ s.canonical <;> simp [h]
    · rfl

theorem genStep_eq :
    genStep c o s k =
      match s.parsed.get? k with
      | none => s
      | some (alias, mtime, tree) =>
        match c.gen tree o.genTexts with
        | .ok data => { s with trace := s.trace ++ [.gen tree o.genTexts], parsed := s.parsed.del k,
                               built := s.built.set k (alias, mtime, data) }
        | .error => { s with trace := s.trace ++ [.gen tree o.genTexts], parsed := s.parsed.del k,
                             processed := s.processed.set k { st := .failed, err := some (.call (.gen tree o.genTexts)) },
                             failed := s.failed.set k () } := by
  unfold genStep
  cases s.parsed.get? k with
  | none => rfl
  | some r => simp only [St.log]; cases c.gen r.2.2 o.genTexts <;> rfl

/-- `noDeps` keeps the borrowers away from a module that was neither requested nor found in a requested file -/
def Eligible : Prop := ¬ (o.noDeps = true ∧ k ∉ s.canonical ∧ k ∉ req)

instance : Decidable (Eligible req o s k) := by unfold Eligible; infer_instance

theorem borrowStep_eq :
    borrowStep c req o s k =
      if Eligible req o s k then
        match (borrowLoop k o.genTexts c.borrowers 0).1 with
        | some r => { s with trace := s.trace ++ (borrowLoop k o.genTexts c.borrowers 0).2,
                             borrowedM := s.borrowedM.set k r, failed := s.failed.del k }
        | none => { s with trace := s.trace ++ (borrowLoop k o.genTexts c.borrowers 0).2 }
      else s := by
  unfold borrowStep
  by_cases he : Eligible req o s k
  · rw [if_neg he, if_pos he]; simp only; cases (borrowLoop k o.genTexts c.borrowers 0).1 <;> rfl
  · rw [if_pos (Decidable.not_not.mp he), if_neg he]

/-- phase 5 drops a delivery for which a searcher reports an up-to-date copy or that `noDeps` excludes after all -/
def needBorrowDrops (mtime : Int) : Bool :=
  (searchLoop k mtime o.rebuild c.searchers 0).1 || !decide (Eligible req o s k)

theorem needBorrowStep_eq :
    needBorrowStep c req o s k =
      match s.borrowedM.get? k with
      | none => s
      | some (alias, mtime, data) =>
        { s with trace := s.trace ++ (searchLoop k mtime o.rebuild c.searchers 0).2,
                 borrowedM := s.borrowedM.del k,
                 processed := s.processed.set k (if needBorrowDrops c req o s k mtime then { st := .untouched }
                                                 else { st := .borrowed, alias := some alias }),
                 built := if needBorrowDrops c req o s k mtime then s.built else s.built.set k (alias, mtime, data) } := by
  unfold needBorrowStep needBorrowDrops Eligible
  cases s.borrowedM.get? k with
  | none => rfl
  | some r =>
    simp only
    cases (searchLoop k r.2.1 o.rebuild c.searchers 0).1
    · by_cases h : o.noDeps = true ∧ k ∉ s.canonical ∧ k ∉ req <;> simp [h]
    · rfl

/-- the writer took the text, or was not asked to -/
def stored (data : Nat) : Prop := o.writeMibs = true → c.put k data o.dryRun = true

instance (data : Nat) : Decidable (stored c o k data) := by unfold stored; infer_instance

theorem storeStep_eq :
    storeStep c o s k =
      match s.built.get? k with
      | none => s
      | some (alias, _, data) =>
        { s with trace := s.trace ++ (if o.writeMibs then [.put k data o.dryRun] else []),
                 built := s.built.del k,
                 processed :=
                   if stored c o k data then
                     if s.processed.contains k then s.processed
                     else s.processed.set k { st := .compiled, alias := some alias }
                   else s.processed.set k { st := .failed, err := some (.call (.put k data o.dryRun)) },
                 failed := if stored c o k data then s.failed else s.failed.set k () } := by
  unfold storeStep
  cases s.built.get? k with
  | none => rfl
  | some r =>
    by_cases hw : o.writeMibs = true <;> by_cases hp : c.put k r.2.2 o.dryRun = true <;>
      cases h : s.processed.contains k <;> simp [stored, St.log, hw, hp, h]

end

theorem genStep_parsed (c : Cfg) (o : Opts) (s : St) (k : Name) : (genStep c o s k).parsed = s.parsed.del k := by
  rw [genStep_eq]
  split
  · exact (AList.del_of_get?_none ‹_›).symm
  · split <;> rfl

theorem needBorrowStep_borrowedM (c : Cfg) (req : List Name) (o : Opts) (s : St) (k : Name) :
    (needBorrowStep c req o s k).borrowedM = s.borrowedM.del k := by
  rw [needBorrowStep_eq]
  split
  · exact (AList.del_of_get?_none ‹_›).symm
  · rfl

theorem storeStep_built (c : Cfg) (o : Opts) (s : St) (k : Name) : (storeStep c o s k).built = s.built.del k := by
  rw [storeStep_eq]
  split
  · exact (AList.del_of_get?_none ‹_›).symm
  · rfl

theorem borrowStep_parsed (c : Cfg) (req : List Name) (o : Opts) (s : St) (k : Name) : (borrowStep c req o s k).parsed = s.parsed := by
  rw [borrowStep_eq]; split
  · split <;> rfl
  · rfl

theorem needBorrowStep_parsed (c : Cfg) (req : List Name) (o : Opts) (s : St) (k : Name) :
    (needBorrowStep c req o s k).parsed = s.parsed := by
  rw [needBorrowStep_eq]; split <;> rfl

theorem storeStep_parsed (c : Cfg) (o : Opts) (s : St) (k : Name) :
    (storeStep c o s k).parsed = s.parsed ∧ (storeStep c o s k).borrowedM = s.borrowedM := by
  rw [storeStep_eq]; split <;> exact ⟨rfl, rfl⟩

theorem needStep_failed (c : Cfg) (o : Opts) (s : St) (k : Name) : (needStep c o s k).failed = s.failed := by
  rw [needStep_eq]; split <;> rfl

theorem needBorrowStep_failed (c : Cfg) (req : List Name) (o : Opts) (s : St) (k : Name) :
    (needBorrowStep c req o s k).failed = s.failed := by
  rw [needBorrowStep_eq]; split <;> rfl

theorem borrowStep_canonical (c : Cfg) (req : List Name) (o : Opts) (s : St) (n : Name) :
    (borrowStep c req o s n).canonical = s.canonical := by
  rw [borrowStep_eq]; split
  · split <;> rfl
  · rfl

theorem needDrops_needStep {c : Cfg} {o : Opts} {s : St} {k n : Name} {mtime : Int} :
    needDrops c o (needStep c o s k) n mtime = needDrops c o s n mtime := by
  rw [needStep_eq]; split <;> rfl

/-- what the dictionaries hold for one name -/
structure View where
  parsed : Option Rec
  built : Option Rec
  borrowedM : Option Rec
  failed : Bool
  status : Option Entry

def St.view (s : St) (n : Name) : View :=
  ⟨s.parsed.get? n, s.built.get? n, s.borrowedM.get? n, s.failed.contains n, s.processed.get? n⟩

section
variable (c : Cfg) (req : List Name) (o : Opts) (s : St) {k n : Name} (hk : k ≠ n)
include hk

theorem needStep_view : (needStep c o s k).view n = s.view n := by
  rw [needStep_eq]
  split
  · rfl
  · simp only [St.view]; split <;> simp [AList.get?_set_ne, AList.get?_del_ne, hk]

theorem genStep_view : (genStep c o s k).view n = s.view n := by
  rw [genStep_eq]
  split
  · rfl
  · split <;> simp [St.view, AList.get?_set_ne, AList.get?_del_ne, AList.contains_set_ne, hk]

theorem borrowStep_view : (borrowStep c req o s k).view n = s.view n := by
  rw [borrowStep_eq]
  split
  · split
    · simp [St.view, AList.get?_set_ne, AList.contains_del_ne, hk]
    · rfl
  · rfl

theorem needBorrowStep_view : (needBorrowStep c req o s k).view n = s.view n := by
  rw [needBorrowStep_eq]
  split
  · rfl
  · simp only [St.view]; split <;> simp [AList.get?_set_ne, AList.get?_del_ne, hk]

theorem storeStep_view : (storeStep c o s k).view n = s.view n := by
  rw [storeStep_eq]
  split
  · rfl
  · simp only [St.view]
    split
    · split <;> simp [AList.get?_set_ne, AList.get?_del_ne, hk]
    · simp [AList.get?_set_ne, AList.get?_del_ne, AList.contains_set_ne, hk]

end

def Adds (Q : Call → Prop) (s s' : St) : Prop := ∃ ext, s'.trace = s.trace ++ ext ∧ ∀ x ∈ ext, Q x

theorem Adds.refl {Q : Call → Prop} {s : St} : Adds Q s s := ⟨[], (List.append_nil _).symm, fun _ h => nomatch h⟩

theorem Adds.trans {Q : Call → Prop} {s s' s'' : St} (h : Adds Q s s') (h' : Adds Q s' s'') : Adds Q s s'' := by
  obtain ⟨e, he, hq⟩ := h
  obtain ⟨e', he', hq'⟩ := h'
  exact ⟨e ++ e', by rw [he', he, List.append_assoc], fun x hx => (List.mem_append.mp hx).elim (hq x) (hq' x)⟩

theorem Adds.mono {Q Q' : Call → Prop} {s s' : St} (h : Adds Q s s') (hq : ∀ x, Q x → Q' x) : Adds Q' s s' :=
  h.imp fun _ h => ⟨h.1, fun x hx => hq x (h.2 x hx)⟩

theorem Adds.all {Q : Call → Prop} {s s' : St} (h : Adds Q s s') (hs : ∀ x ∈ s.trace, Q x) : ∀ x ∈ s'.trace, Q x := by
  obtain ⟨ext, e, hext⟩ := h
  exact e ▸ fun x hx => (List.mem_append.mp hx).elim (hs x) (hext x)

section
variable (c : Cfg) (req : List Name) (o : Opts) (s : St) (k : Name)

theorem needStep_trace : Adds Call.Late s (needStep c o s k) := by
  rw [needStep_eq]
  split
  · exact .refl
  · exact ⟨_, rfl, searchLoop_late⟩

theorem genStep_trace : Adds Call.Late s (genStep c o s k) := by
  rw [genStep_eq]
  split
  · exact .refl
  · split <;> exact ⟨_, rfl, late_gen⟩

theorem borrowStep_calls :
    Adds (fun x => (∃ i, x = Call.borrow i k o.genTexts) ∧ (o.noDeps = false ∨ k ∈ s.canonical ∨ k ∈ req)) s
      (borrowStep c req o s k) := by
  rw [borrowStep_eq]
  split
  · next he =>
    refine ⟨(borrowLoop k o.genTexts c.borrowers 0).2, by split <;> rfl, fun x hx => ⟨?_, ?_⟩⟩
    · obtain ⟨j, -, rfl⟩ := List.mem_map.mp (borrowLoop_calls .. ▸ hx); exact ⟨_, rfl⟩
    · unfold Eligible at he
      cases hh : o.noDeps
      · exact Or.inl rfl
      · exact Or.inr (Decidable.or_iff_not_not_and_not.mpr fun h => he ⟨hh, h⟩)
  · exact .refl

theorem borrowStep_trace : Adds Call.Late s (borrowStep c req o s k) :=
  (borrowStep_calls c req o s k).mono fun _ ⟨⟨_, e⟩, _⟩ => e ▸ ⟨rfl, rfl⟩

theorem needBorrowStep_trace : Adds Call.Late s (needBorrowStep c req o s k) := by
  rw [needBorrowStep_eq]
  split
  · exact .refl
  · exact ⟨_, rfl, searchLoop_late⟩

theorem storeStep_trace : Adds (fun x => ∃ d dr, x = .put k d dr) s (storeStep c o s k) := by
  rw [storeStep_eq]
  split
  · exact .refl
  · refine ⟨_, rfl, fun x hx => ?_⟩
    split at hx
    · exact ⟨_, _, List.mem_singleton.mp hx⟩
    · cases hx

end

def EntryOK (e : Entry) : Prop := e.st = .failed → e.err.isSome = true

def ProcOK (p : AList Name Entry) : Prop := p.keys.Nodup ∧ AList.All EntryOK p

theorem ProcOK.set {p : AList Name Entry} (h : ProcOK p) (n : Name) {e : Entry} (he : EntryOK e) : ProcOK (p.set n e) :=
  ⟨AList.nodup_keys_set h.1, AList.all_set h.2 he⟩

theorem ProcOK.del {p : AList Name Entry} (h : ProcOK p) (n : Name) : ProcOK (p.del n) :=
  ⟨AList.nodup_keys_del h.1, AList.all_del h.2⟩

/-- what holds of every state up to the gate: the writer has not been called (C09), the status map is in order (C07),
one record per built module (so that phase 6 hands each over once) -/
structure Inv (s : St) : Prop where
  noPut : ∀ x ∈ s.trace, x.isPut = false
  proc : ProcOK s.processed
  builtNodup : s.built.keys.Nodup

theorem noPut_append {t u : List Call} (ht : ∀ x ∈ t, x.isPut = false) (hu : ∀ x ∈ u, x.Late) :
    ∀ x ∈ t ++ u, x.isPut = false :=
  fun x hx => (List.mem_append.mp hx).elim (ht x) (fun h => (hu x h).2)

theorem inv_init (req : List Name) : Inv { queue := req } :=
  ⟨by simp, ⟨by simp, fun _ he => by cases he⟩, by simp⟩

theorem inv_discover {c : Cfg} {req : List Name} {fuel : Nat} {s s' : St} (h : Inv s)
    (hd : discover c req fuel s = some s') : Inv s' := by
  refine discover_inv (fun h => ⟨h.1, h.2, h.3⟩)
    (fun hk h => ⟨fun x hx => (List.mem_append.mp hx).elim (h.noPut x) fun hx => List.mem_singleton.mp hx ▸ hk, h.2, h.3⟩)
    (fun {_ n _} h => ⟨h.1, h.proc.set n (fun _ => rfl), h.3⟩) (fun {s n} h => ⟨h.1, ?_, h.3⟩)
    (fun h => ⟨h.1, h.2, h.3⟩) (fun h => ⟨h.1, h.proc.del _, h.3⟩) h hd
  · show ProcOK (if s.processed.contains n then _ else _)
    split
    · exact h.proc
    · exact h.proc.set n (nomatch ·)

section
variable (c : Cfg) (req : List Name) (o : Opts) (s : St) (n : Name) (h : Inv s)
include h

theorem inv_needStep : Inv (needStep c o s n) := by
  rw [needStep_eq]
  split
  · exact h
  · refine ⟨noPut_append h.noPut searchLoop_late, ?_, h.builtNodup⟩
    simp only; split
    · exact h.proc.set n (nomatch ·)
    · exact h.proc

theorem inv_genStep : Inv (genStep c o s n) := by
  rw [genStep_eq]
  split
  · exact h
  · split
    · exact ⟨noPut_append h.noPut late_gen, h.proc, AList.nodup_keys_set h.builtNodup⟩
    · exact ⟨noPut_append h.noPut late_gen, h.proc.set n (fun _ => rfl), h.builtNodup⟩

theorem inv_borrowStep : Inv (borrowStep c req o s n) := by
  rw [borrowStep_eq]
  split
  · split <;> exact ⟨noPut_append h.noPut borrowLoop_late, h.proc, h.builtNodup⟩
  · exact h

theorem inv_needBorrowStep : Inv (needBorrowStep c req o s n) := by
  rw [needBorrowStep_eq]
  split
  · exact h
  · refine ⟨noPut_append h.noPut searchLoop_late, h.proc.set n ?_, ?_⟩
    · split <;> exact (nomatch ·)
    · simp only; split
      · exact h.builtNodup
      · exact AList.nodup_keys_set h.builtNodup

end

theorem gate_induction {P : St → Prop} {c : Cfg} {req : List Name} {o : Opts}
    (need : ∀ s k, P s → P (needStep c o s k)) (gen : ∀ s k, P s → P (genStep c o s k))
    (borrow : ∀ s k, P s → P (borrowStep c req o s k))
    (needBorrow : ∀ s k, P s → P (needBorrowStep c req o s k)) {s : St} (h : P s) :
    P (phaseNeedBorrow c req o (phaseBorrow c req o (phaseGen c o (phaseNeed c o s)))) := by
  exact foldl_induction (fun s k _ => needBorrow s k) (foldl_induction (fun s k _ => borrow s k)
    (foldl_induction (fun s k _ => gen s k) (foldl_induction (fun s k _ => need s k) h)))

theorem inv_beforeGate (c : Cfg) (req : List Name) (o : Opts) (fuel : Nat) (s : St)
    (h : beforeGate c req o fuel = some s) : Inv s := by
  unfold beforeGate at h
  obtain ⟨s0, hd, rfl⟩ := Option.map_eq_some_iff.mp h
  have h0 : Inv s0 := inv_discover (inv_init req) hd
  exact gate_induction (fun s k => inv_needStep c o s k) (fun s k => inv_genStep c o s k)
    (fun s k => inv_borrowStep c req o s k) (fun s k => inv_needBorrowStep c req o s k) h0

end Pysmi.Compile
