import Pysmi.Props.C03
import Pysmi.Generated.Pysnmp
/-!
# C04 — every definition of the generated module stands after what it is built from

The pysnmp template writes one Python statement per record, in the order of `_symtable_order` (records that carry an
OID are then sorted by it, the others keep their place: `C04_types_keep_dependency_order`).  A class statement names
its base class, so the module can only be loaded if the base has been defined (or imported) before.

* `C04_parents_before`: whenever the symbol pass succeeds, every symbol of the emission order is the name of a
  declaration all of whose parents are imported / base symbols, row types, or symbols *earlier in the order* —
  for any number and order of declarations, any depth of forward references.
* `C04_before_survives_filter`: a pass of the template over the records of some classes (a filter of the order)
  keeps "earlier" — a base that is defined by the same pass is defined before.
* `C04_types_one_pass` (regenerated table): the template defines plain types and textual conventions in the same
  single pass, and that pass comes before every pass that uses them.  (Before repair b06c2a8 there were two passes,
  types first: a type based on a textual convention was written ahead of its base.)
-/
namespace Pysmi.Symtab

/-- every element of `out` names a declaration whose parents are all there before it -/
def Ord (avail : Name → Bool) (all : List Decl) (rows out : List Name) : Prop :=
  ∀ (i : Nat) (h : i < out.length), ∃ d ∈ all, d.name = out[i] ∧ allParents avail (out.take i) rows d.parents = true

theorem ord_nil {avail : Name → Bool} {all : List Decl} {rows : List Name} : Ord avail all rows [] :=
  fun _ h => nomatch h

theorem ord_snoc {avail : Name → Bool} {all : List Decl} {rows : List Name} (out : List Name) (d : Decl) (hd : d ∈ all)
    (hp : allParents avail out rows d.parents = true) (ho : Ord avail all rows out) :
    Ord avail all rows (out ++ [d.name]) := by
  intro i h
  by_cases hi : i < out.length
  · obtain ⟨d', hd', hn, hpar⟩ := ho i hi
    refine ⟨d', hd', ?_, ?_⟩
    · rw [List.getElem_append_left hi]; exact hn
    · rw [List.take_append_of_le_length (by omega)]; exact hpar
  · have hi' : i = out.length := by simp at h; omega
    subst hi'
    exact ⟨d, hd, by simp, by simpa using hp⟩

/-- **C04_parents_before**: on success, every symbol of the emission order names a declaration whose parents are each an
imported / base symbol, a row type of the module, or a symbol that stands earlier in the order. -/
theorem C04_parents_before (avail : Name → Bool) (decls : List Decl) (order : List Name) (h : run avail decls = .ok order)
    (i : Nat) (hi : i < order.length) :
    ∃ d ∈ decls, d.name = order[i] ∧ ∀ p ∈ d.parents, p ∈ order.take i ∨ avail p = true ∨ p ∈ allRows decls := by
  obtain ⟨s, hs, -, rfl⟩ := run_ok_iff.mp h
  obtain ⟨d, hd, hn, hp⟩ := regAll_out_induct hs (Q := Ord avail decls (allRows decls)) ord_nil ord_snoc i hi
  exact ⟨d, hd, hn, allParents_iff.mp hp⟩

/-- **C04_declared_parent_earlier**: with distinct declared names, *the* declaration of a symbol of the order has every
parent that is itself only a declared symbol (not imported, not a row type) strictly earlier in the order. -/
theorem C04_declared_parent_earlier (avail : Name → Bool) (decls : List Decl) (hnd : (names decls).Nodup)
    (order : List Name) (h : run avail decls = .ok order) (d : Decl) (hd : d ∈ decls)
    (i : Nat) (hi : i < order.length) (hn : order[i] = d.name) (p : Name) (hp : p ∈ d.parents)
    (hnb : ¬ Base avail decls p) : p ∈ order.take i := by
  obtain ⟨d', hd', hn', hpar⟩ := C04_parents_before avail decls order h i hi
  obtain rfl : d' = d := eq_of_nodup_map hnd hd' hd (hn'.trans hn)
  exact (hpar p hp).resolve_right hnb

/-- **C04_before_survives_filter**: one pass of the template writes the records of some classes in the order of the
list; a symbol that stands before another in the list and is written by the same pass is written before it. -/
theorem C04_before_survives_filter (f : Name → Bool) (order : List Name) (i : Nat) (hi : i < order.length)
    (hf : f order[i] = true) (p : Name) (hp : p ∈ order.take i) (hfp : f p = true) :
    ∃ pre post, order.filter f = pre ++ order[i] :: post ∧ p ∈ pre := by
  refine ⟨(order.take i).filter f, (order.drop (i + 1)).filter f, ?_, List.mem_filter.mpr ⟨hp, hfp⟩⟩
  rw [← List.filter_cons_of_pos hf, ← List.filter_append, List.getElem_cons_drop, List.take_append_drop]

/-- a chain of forward references: `T3 ::= T2`, `T2 ::= T1`, `T1 ::= <base 0>` (names 3, 2, 1) comes out base first -/
example : run (fun n => n == 0) [⟨3, [2], []⟩, ⟨2, [1], []⟩, ⟨1, [0], []⟩] = .ok [1, 2, 3] := by decide

end Pysmi.Symtab

namespace Pysmi.Generated.Pysnmp

/-- the passes of the template that write records of class `c`, by position -/
def passesOf (c : String) : List Nat :=
  (List.range templateLoops.length).filter (fun i => (templateLoops.getD i []).contains c)

/-- **C04_types_one_pass**: plain types and textual conventions are defined by one and the same pass of the template
(the last pass is the export list, which defines nothing), and that pass precedes every pass over records that use
types (objects) — so the order of `C04_parents_before` is the order of the class statements. -/
theorem C04_types_one_pass :
    (passesOf "type").dropLast = (passesOf "textualconvention").dropLast ∧ (passesOf "type").dropLast.length = 1 ∧
    (∀ i ∈ (passesOf "type").dropLast, ∀ j ∈ (passesOf "objecttype"), i < j) ∧
    (passesOf "type").getLast? = some (templateLoops.length - 1) := by decide +kernel

/-- the pass that defines the managed objects (the one that also defines OBJECT-IDENTITY nodes and is not the export list) -/
def objectPasses : List Nat := (passesOf "objectidentity").dropLast

/-- **C04_augment_after_objects**: the statements that register an augmenting row with its base row stand in exactly one pass,
which comes after the (one) pass that defines the managed objects - so the base row, wherever its OID sorts, is defined when
they run.  (Before repair f9270ed they stood inside the pass over the managed objects, behind the augmenting row.) -/
theorem C04_augment_after_objects :
    templateAugmentPasses.length = 1 ∧ objectPasses.length = 1 ∧
    (∀ a ∈ templateAugmentPasses, ∀ o ∈ objectPasses, o < a) ∧
    (∀ a ∈ templateAugmentPasses, a < templateLoops.length - 1) := by decide +kernel

end Pysmi.Generated.Pysnmp
