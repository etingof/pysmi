import Pysmi.Lemmas.Store
import Pysmi.Props.C09
/-!
# C07 — compile() accounts for every module; statuses match effects; errors contained

Full statement (as given): for every assignment of outcomes to every component call, every
import graph and option set, `compile` returns a status map (never raises for package
errors) with exactly one of six statuses per requested/reachable module; each module's text
is handed to the writer at most once; a module is `compiled`/`borrowed` exactly when that
hand-over happened and succeeded; the text is what the generator or borrower produced;
failed entries carry the causing error.

Proved below for *every* configuration: totality (the only way not to return is the
discovery loop, see C08), one status per key, failed entries carry their error, writer calls
= one per built module with its own text, and the status/hand-over equivalence for every
module that reaches the store step without an earlier status other than `borrowed`
(`C07_written_iff_reported_partial`; the residue — a name that failed *and* was obtained
through another file — is recorded in DESIGN.md §7).
-/
namespace Pysmi.Compile
open Pysmi

/-- **C07_total**: whenever discovery terminates the model returns a status map;
every component error is consumed by a handler (there is no error outcome of `run`). -/
theorem C07_total (c : Cfg) (req : List Name) (o : Opts) (fuel : Nat) :
    (run c req o fuel).isSome = (discover c req fuel { queue := req }).isSome := by
  unfold run beforeGate
  cases discover c req fuel { queue := req } <;> rfl

theorem procOK_storeStep (c : Cfg) (o : Opts) (s : St) (n : Name) (h : ProcOK s.processed) :
    ProcOK (storeStep c o s n).processed := by
  rw [storeStep_eq]
  split
  · exact h
  · simp only
    split
    · split
      · exact h
      · exact h.set n (nomatch ·)
    · exact h.set n (fun _ => rfl)

theorem procOK_run {c : Cfg} {req : List Name} {o : Opts} {fuel : Nat} {out : Out} (h : run c req o fuel = some out) :
    ProcOK out.processed := by
  obtain ⟨s, hb, rfl⟩ := Option.map_eq_some_iff.mp h
  exact afterGate_induction (P := fun s => ProcOK s.processed)
    (fun _ h => foldl_induction (fun _ k _ h => h.set k (nomatch ·)) h) (procOK_storeStep c o)
    (inv_beforeGate c req o fuel s hb).proc

/-- **C07_one_status**: the returned map has pairwise distinct keys (each module exactly one
status; the status type has exactly the six documented values). -/
theorem C07_one_status (c : Cfg) (req : List Name) (o : Opts) (fuel : Nat) (out : Out)
    (h : run c req o fuel = some out) : out.processed.keys.Nodup :=
  (procOK_run h).1

/-- **C07_failed_carry_error**: every `failed` entry of the result carries its causing error. -/
theorem C07_failed_carry_error (c : Cfg) (req : List Name) (o : Opts) (fuel : Nat) (out : Out)
    (h : run c req o fuel = some out) (n : Name) (e : Entry) (he : (n, e) ∈ out.processed)
    (hf : e.st = .failed) : e.err.isSome = true :=
  (procOK_run h).2 (n, e) he hf

/-- **C07_put_once**: over the whole run each module is handed to the writer at most once, and
the text handed over is the one stored for it in `built` (generator's or borrower's). -/
theorem C07_put_once (c : Cfg) (req : List Name) (o : Opts) (fuel : Nat) (s : St) (out : Out)
    (hs : beforeGate c req o fuel = some s) (h : run c req o fuel = some out) :
    (out.trace.filter Call.isPut = [] ∨ out.trace.filter Call.isPut = putCalls o s.built) ∧
    s.built.keys.Nodup := by
  refine ⟨?_, (inv_beforeGate c req o fuel s hs).builtNodup⟩
  have hnp : s.trace.filter Call.isPut = [] :=
    List.filter_eq_nil_iff.mpr fun x hx => by simp [C09_no_put_before_gate c req o fuel s hs x hx]
  -- the two sides of the gate are `C09_gate` and `C09_store_calls`
  by_cases hpass : s.failed.isEmpty = true ∨ o.ignoreErrors = true
  · obtain ⟨_, h', ht⟩ := C09_store_calls c req o fuel s hs hpass
    cases h.symm.trans h'
    rw [ht, List.filter_append, hnp, List.nil_append]
    refine Or.inr (List.filter_eq_self.mpr fun x hx => ?_)
    unfold putCalls at hx
    split at hx
    · obtain ⟨e, _, rfl⟩ := List.mem_map.mp hx; rfl
    · cases hx
  · simp only [not_or, Bool.not_eq_true] at hpass
    obtain ⟨_, h', ht, _⟩ := C09_gate c req o fuel s hs hpass.1 hpass.2
    cases h.symm.trans h'
    exact Or.inl (List.filter_eq_nil_iff.mpr fun x hx => by simp [ht x hx])

/-- **C07_written_iff_reported_partial**: with writing enabled and the gate passed, a built
module that had no earlier status, or `borrowed`, is reported `compiled`/`borrowed` iff its
hand-over to the writer succeeded, and `failed` (with the writer error) otherwise. -/
theorem C07_written_iff_reported_partial (c : Cfg) (req : List Name) (o : Opts) (fuel : Nat) (s : St)
    (hs : beforeGate c req o fuel = some s) (hpass : s.failed.isEmpty = true ∨ o.ignoreErrors = true)
    (hw : o.writeMibs = true)
    (n alias : Name) (mtime : Int) (data : Nat) (hm : (n, alias, mtime, data) ∈ s.built)
    (hstale : s.processed.get? n = none ∨ ∃ a, s.processed.get? n = some { st := .borrowed, alias := a }) :
    ∃ out e, run c req o fuel = some out ∧ out.processed.get? n = some e ∧
      ((e.st = .compiled ∨ e.st = .borrowed) ↔ c.put n data o.dryRun = true) ∧
      (c.put n data o.dryRun = false → e.st = .failed ∧ e.err = some (.call (.put n data o.dryRun))) := by
  obtain ⟨out, h1, h2⟩ := C09_store_status c req o fuel s hs hpass n alias mtime data hm
  cases hput : c.put n data o.dryRun
  · exact ⟨out, _, h1, h2.trans (if_neg fun h => Bool.false_ne_true (hput.symm.trans (h hw))), by simp, fun _ => ⟨rfl, rfl⟩⟩
  · have e := h2.trans (if_pos fun _ => hput)
    rcases hstale with hn | ⟨a, hn⟩
    · exact ⟨out, _, h1, e.trans (by rw [hn]), by simp, nofun⟩
    · exact ⟨out, _, h1, e.trans (by rw [hn]), by simp, nofun⟩

end Pysmi.Compile
