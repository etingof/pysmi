import Pysmi.Model.Tree
/-!
# C14 — every directory of the tree is searched, once, parents first

* `C14_tree_count`: `getSubdirs` yields as many directories as the tree has - none twice, none left out by count.
* `C14_tree_every_dir_searched`: the directory at *any* path below the root, at any depth, is among those searched.
* `C14_tree_root_first`: the root is searched first (a file in the root shadows a same-named file further down).
* `C14_tree_parent_first`: every directory is searched before the directories below it.

`C14_tree_every_dir_searched` and `C14_tree_parent_first` rest on `at_sublist`: the search order of a sub-tree is a sublist
of the search order of the tree.
-/
namespace Pysmi.Tree

mutual
theorem C14_tree_count (t : Dir) : t.flatten.length = t.size :=
  match t with
  | .mk _ subs => by rw [Dir.flatten, Dir.size, List.length_cons, flattenAll_length subs, Nat.add_comm]
theorem flattenAll_length : ∀ ds : List Dir, (flattenAll ds).length = sizeAll ds
  | [] => rfl
  | d :: ds => by rw [flattenAll, sizeAll, List.length_append, C14_tree_count d, flattenAll_length ds]
end

theorem C14_tree_root_first (t : Dir) : t.flatten.head? = some t.files := by
  cases t with
  | mk fs subs => rfl

mutual
/-- a sub-tree is searched as a whole and in its own order within the search of the tree -/
theorem at_sublist : ∀ (t : Dir) (p : List Nat) (e : Dir), t.at? p = some e → e.flatten.Sublist t.flatten
  | t, [], e, h => by rw [Dir.at?] at h; cases h; exact .refl _
  | .mk fs subs, i :: p, e, h => (atAll_sublist subs i p e h).cons fs
theorem atAll_sublist : ∀ (ds : List Dir) (i : Nat) (p : List Nat) (e : Dir), atAll ds i p = some e →
    e.flatten.Sublist (flattenAll ds)
  | [], _, _, _, h => nomatch h
  | d :: ds, 0, p, e, h => (at_sublist d p e h).trans (List.sublist_append_left d.flatten (flattenAll ds))
  | d :: ds, i + 1, p, e, h => (atAll_sublist ds i p e h).trans (List.sublist_append_right d.flatten (flattenAll ds))
end

mutual
theorem at?_append : ∀ (t : Dir) (p q : List Nat), t.at? (p ++ q) = (t.at? p).bind (·.at? q)
  | t, [], q => by rw [Dir.at?]; rfl
  | .mk _ subs, i :: p, q => atAll_append subs i p q
theorem atAll_append : ∀ (ds : List Dir) (i : Nat) (p q : List Nat), atAll ds i (p ++ q) = (atAll ds i p).bind (·.at? q)
  | [], _, _, _ => rfl
  | d :: _, 0, p, q => at?_append d p q
  | _ :: ds, i + 1, p, q => atAll_append ds i p q
end

theorem files_mem_flatten (t : Dir) : t.files ∈ t.flatten := List.mem_of_mem_head? (C14_tree_root_first t)

/-- **C14_tree_every_dir_searched**: whatever path of sub-directories leads to a directory, it is searched. -/
theorem C14_tree_every_dir_searched (t : Dir) (p : List Nat) (e : Dir) (h : t.at? p = some e) : e.files ∈ t.flatten :=
  (at_sublist t p e h).subset (files_mem_flatten e)

/-- a directory is searched before every directory below it -/
theorem below_after : ∀ (d : Dir) (i : Nat) (q : List Nat) (e : Dir), d.at? (i :: q) = some e →
    [d.files, e.files].Sublist d.flatten
  | .mk fs subs, i, q, e, h => by
    rw [Dir.at?] at h
    exact .cons_cons _ (List.singleton_sublist.mpr ((atAll_sublist subs i q e h).subset (files_mem_flatten e)))

/-- **C14_tree_parent_first**: a directory is searched before each of its sub-directories, at any depth - a file found in a
directory shadows a same-named file in the directories below it. -/
theorem C14_tree_parent_first (t : Dir) (p : List Nat) (i : Nat) (d e : Dir) (h1 : t.at? p = some d)
    (h2 : t.at? (p ++ [i]) = some e) : [d.files, e.files].Sublist t.flatten := by
  rw [at?_append, h1] at h2
  exact (below_after d i [] e h2).trans (at_sublist t p d h1)

theorem atAll_before : ∀ (ds : List Dir) (j : Nat) (p : List Nat) (i : Nat) (d e : Dir), atAll ds j p = some d →
    atAll ds j (p ++ [i]) = some e → [d.files, e.files].Sublist (flattenAll ds) := by
  intro ds j p i d e h1 h2
  rw [atAll_append, h1] at h2
  exact (below_after d i [] e h2).trans (atAll_sublist ds j p d h1)

/-- a tree three levels deep: root, two children, a grandchild under the first -/
example : (Dir.mk ["a"] [.mk ["b"] [.mk ["c"] []], .mk ["d"] []]).flatten = [["a"], ["b"], ["c"], ["d"]] := rfl
example : (Dir.mk ["a"] [.mk ["b"] [.mk ["c"] []], .mk ["d"] []]).at? [0, 0] = some (.mk ["c"] []) := rfl

end Pysmi.Tree
