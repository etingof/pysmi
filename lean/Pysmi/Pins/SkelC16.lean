import Pysmi.Generated.Skeletons
/-!
# Pins (C16): the control skeletons the hand-written models and oracles were written against

`Generated/Skeletons.lean` is rewritten from the source on every run (calls other than logging, string plumbing and pure
builtins, raises with their exception class, returns, loops, branches, handlers - in source order; for the scripts also the
exit status of every `sys.exit`).  A structural change of one of these methods breaks its pin - which is not by itself a
violation: the check then searches model and code for a failing input and reports what it finds.
(Literals written by harness/tools/repin.py when the models were last brought in line with the source.)
-/
namespace Pysmi.Pins.SkelC16
open Pysmi.Generated.Skeletons

/-- IntermediateCodeGen.genImports (pysmi/codegen/intermediate.py) -/
theorem pin_intermediateGenImports : intermediateGenImports = [
    "loop", "if", "loop", "if", "call:toDel.append", "loop", "if", "call:imports[newModule].append", "loop",
    "call:imports[d[0]].remove", "loop", "if", "loop", "loop", "call:symbols.append", "if",
    "call:self._seenSyms.update", "call:self.transOpers", "call:self._importMap.update", "call:self.transOpers", "if",
    "call:outDict[module].extend", "return:value"] := rfl

/-- SymtableCodeGen.genImports (pysmi/codegen/symtable.py) -/
theorem pin_symtableGenImports : symtableGenImports = [
    "loop", "if", "loop", "if", "call:toDel.append", "loop", "if", "call:imports[newModule].append", "loop",
    "call:imports[d[0]].remove", "loop", "if", "loop", "loop", "call:self.symTrans", "if",
    "call:self._importMap.update", "call:self.transOpers", "return:value"] := rfl

/-- IntermediateCodeGen.genTrapType (pysmi/codegen/intermediate.py) -/
theorem pin_genTrapType : genTrapType = [
    "call:self.genLabel", "call:self.transOpers", "if", "call:self._importMap.get", "call:self.transOpers", "if",
    "if", "call:self.regSym", "return:value"] := rfl

end Pysmi.Pins.SkelC16
