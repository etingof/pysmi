import Pysmi.Model.Py
import Pysmi.Model.Index
import Pysmi.Model.Compile
import Pysmi.Model.Writer
import Pysmi.Model.Borrower
import Pysmi.Model.Searcher
import Pysmi.Model.Reader
import Pysmi.Model.Oid
import Pysmi.Model.Symtab
import Pysmi.Model.Syntax
import Pysmi.Model.Struct
import Pysmi.Model.Lexer
import Pysmi.Model.PyExpr
import Pysmi.Model.LR
import Pysmi.Model.LexCfg
import Pysmi.Model.Grammar
import Pysmi.Model.Obj
import Pysmi.Model.PyStr
import Pysmi.Model.Imports
import Pysmi.Model.Pysnmp
import Pysmi.Model.Cli
import Pysmi.Generated.LexTables
import Pysmi.Pins.Lex
import Pysmi.Pins.Compile
import Pysmi.Pins.SkelC13
import Pysmi.Pins.SkelC10
import Pysmi.Pins.SkelC19
import Pysmi.Pins.SkelC14
import Pysmi.Pins.SkelC18
import Pysmi.Pins.SkelC01
import Pysmi.Pins.SkelC20
import Pysmi.Pins.SkelC17
import Pysmi.Pins.SkelC15
import Pysmi.Pins.SkelC12
import Pysmi.Pins.SkelC02
import Pysmi.Pins.SkelC03
import Pysmi.Pins.SkelC04
import Pysmi.Pins.SkelC16
import Pysmi.Pins.SkelC06
import Pysmi.Pins.SkelC05
import Pysmi.Pins.SkelC11
import Pysmi.Lemmas.Except
import Pysmi.Lemmas.List
import Pysmi.Lemmas.Lexer
import Pysmi.Lemmas.Symtab
import Pysmi.Lemmas.AList
import Pysmi.Lemmas.Index
import Pysmi.Lemmas.DotPrefix
import Pysmi.Lemmas.Compile
import Pysmi.Lemmas.Store
import Pysmi.Props.C07
import Pysmi.Props.C08
import Pysmi.Props.C08Closure
import Pysmi.Props.C07Accounted
import Pysmi.Props.C09Failure
import Pysmi.Props.C10Run
import Pysmi.Props.C09
import Pysmi.Props.C10
import Pysmi.Props.C18
import Pysmi.Props.C18Reindex
import Pysmi.Props.C19
import Pysmi.Props.C13
import Pysmi.Props.C10Searcher
import Pysmi.Props.C14
import Pysmi.Props.C01
import Pysmi.Props.C03
import Pysmi.Props.C03Time
import Pysmi.Props.C03Records
import Pysmi.Props.C01Records
import Pysmi.Props.C05
import Pysmi.Props.C06
import Pysmi.Props.C06Template
import Pysmi.Props.C02LR
import Pysmi.Props.C11
import Pysmi.Props.C17
import Pysmi.Props.C12
import Pysmi.Props.C15
import Pysmi.Props.C16
import Pysmi.Props.C04
import Pysmi.Props.C04Order
import Pysmi.Props.C03Names
import Pysmi.Props.C14Tree
import Pysmi.Props.C20
import Pysmi.Props.C02
import Pysmi.Props.C02Macro
import Pysmi.Props.C11Lines
