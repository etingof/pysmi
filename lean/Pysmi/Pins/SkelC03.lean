import Pysmi.Generated.Skeletons
/-!
# Pins (C03): the control skeletons the hand-written models and oracles were written against

`Generated/Skeletons.lean` is rewritten from the source on every run (calls other than logging, string plumbing and pure
builtins, raises with their exception class, returns, loops, branches, handlers - in source order; for the scripts also the
exit status of every `sys.exit`).  A structural change of one of these methods breaks its pin - which is not by itself a
violation: the check then searches model and code for a failing input and reports what it finds.
(Literals written by harness/tools/repin.py when the models were last brought in line with the source.)
-/
namespace Pysmi.Pins.SkelC03
open Pysmi.Generated.Skeletons

/-- IntermediateCodeGen.genCode (pysmi/codegen/intermediate.py) -/
theorem pin_intermediateGenCode : intermediateGenCode = [
    "call:kwargs.get", "call:kwargs.get", "call:re.sub", "call:self._rows.clear", "call:self._cols.clear",
    "call:self._seenSyms.clear", "call:self._importMap.clear", "call:self._out.clear", "call:self.genImports", "loop",
    "if", "call:self.handlersTable[declr[0]]", "call:self.prepData", "loop", "if", "raise:error.PySmiCodegenError",
    "call:error.PySmiCodegenError", "if", "return:value", "call:MibInfo"] := rfl

/-- IntermediateCodeGen.genRevisions (pysmi/codegen/intermediate.py) -/
theorem pin_genRevisions : genRevisions = [
    "loop", "call:self.genTime", "call:self.textFilter", "call:revisions.append", "return:value"] := rfl

end Pysmi.Pins.SkelC03
