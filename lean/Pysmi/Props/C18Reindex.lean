import Pysmi.Props.C18
/-!
# C18, continued — re-indexing the same results changes nothing

* `compact_minimal`: an entry that survives the compaction pass is not covered by an entry under another key (the pass
  visits shallower keys first: `pairwise_sortByKey`; a proper prefix is shallower: `Strict`);
* `compact_reindex`: the abstract statement — compacting a dictionary that agrees with the first one on the surviving keys
  and lists nothing new gives the same keys with the same modules (a key survives in the one if it does in the other:
  `compact_hasKey_of`, used in both directions);
* `C18_reindex_oids`, `C18_reindex_sections`, `C18_reindex_same`: `genIndex` run again on the same compile results, on top of
  its own output, yields the same keys and the same modules under every key in all four sections — for every old index with
  distinct keys (a Python dict) and every list of module summaries.
-/
namespace Pysmi.Index
set_option linter.unusedSectionVars false
variable {κ μ : Type} [DecidableEq κ] [DecidableEq μ]

/-- the prefix test is strict with respect to the sort key -/
def Strict (pref : κ → κ → Bool) (depth : κ → Nat) : Prop := ∀ a b, pref a b = true → a ≠ b → depth a < depth b

/-- **minimality**: an entry that survives compaction is not covered by an entry under another key -/
theorem compact_minimal (pref : κ → κ → Bool) (depth : κ → Nat) (ha : Admissible pref) (hst : Strict pref depth)
    (d : List (κ × List μ)) (e : κ × List μ) (he : e ∈ compact pref depth d) (e' : κ × List μ) (he' : e' ∈ d)
    (hne : e'.1 ≠ e.1) : ¬ Cov pref e' e := by
  intro hcov
  have hs := pairwise_sortByKey (fun e : κ × List μ => depth e.1) d
  have he's := (mem_sortByKey (key := fun e : κ × List μ => depth e.1)).mpr he'
  rcases foldl_compactStep_split he with h | ⟨l1, l2, hl, hnc⟩
  · cases h
  · rw [hl] at hs he's
    -- `e'` is shallower than `e`, so the sort has put it before `e`
    have hin : e' ∈ l1 := by
      rcases List.mem_append.mp he's with h | h
      · exact h
      · have hlt := hst _ _ hcov.1 hne
        have hle : depth e.1 ≤ depth e'.1 := by
          rcases List.mem_cons.mp h with rfl | h
          · exact Nat.le_refl _
          · exact List.rel_of_pairwise_cons (List.pairwise_append.mp hs).2.1 h
        omega
    -- so when `e` was offered a survivor covered `e'`, and with it `e`
    obtain ⟨u, hu, hcu⟩ := foldl_compactStep_dominates ha.refl [] hin
    rw [covered_iff.mpr ⟨u, hu, ha.trans _ _ _ hcu.1 hcov.1, fun x hx => hcu.2 x (hcov.2 x hx)⟩] at hnc
    cases hnc

/-- a key that survives in `D` survives in `D'` as well, if `D'` has the key with at least the modules `D` lists under
it, and every key that survives in `D'` is a key of `D` with at least the modules `D'` lists under it -/
theorem compact_hasKey_of {pref : κ → κ → Bool} {depth : κ → Nat} (ha : Admissible pref) (hst : Strict pref depth)
    {D D' : List (κ × List μ)} (u : KeysNodup D) (u' : KeysNodup D') {k : κ} (hk : HasKey (compact pref depth D) k)
    (hk' : HasKey D' k) (hle : ∀ x, Listed D x k → Listed D' x k)
    (hback : ∀ p, HasKey (compact pref depth D') p → HasKey D p ∧ ∀ x, Listed D' x p → Listed D x p) :
    HasKey (compact pref depth D') k := by
  obtain ⟨v, hv⟩ := hk
  obtain ⟨v', hv'⟩ := hk'
  obtain ⟨⟨p, pm⟩, hp, hpk, hpm⟩ := compact_dominates depth ha.refl hv'
  by_cases hpe : p = k
  · subst hpe; exact ⟨pm, hp⟩
  · -- otherwise the entry of `D` under `p` would cover the survivor `(k, v)`
    obtain ⟨⟨w, hw⟩, hl⟩ := hback p ⟨pm, hp⟩
    refine absurd ⟨hpk, fun x hx => ?_⟩ (compact_minimal pref depth ha hst D (k, v) hv (p, w) hw hpe)
    have h1 : x ∈ v' := (mem_iff_listed u' hv').mpr (hle x ⟨v, compact_sub hv, hx⟩)
    exact (mem_iff_listed u hw).mpr (hl x ⟨pm, compact_sub hp, hpm x h1⟩)

/-- **re-compaction**: if `D2` has unique keys, no key outside `D1`, lists nothing `D1` does not list, and agrees with
`D1` on every key that survived the compaction of `D1`, then compacting `D2` gives the same keys with the same modules. -/
theorem compact_reindex (pref : κ → κ → Bool) (depth : κ → Nat) (ha : Admissible pref) (hst : Strict pref depth)
    (D1 D2 : List (κ × List μ)) (u1 : KeysNodup D1) (u2 : KeysNodup D2)
    (hkeys : ∀ k, HasKey D2 k → HasKey D1 k)
    (hsub : ∀ k x, Listed D2 x k → Listed D1 x k)
    (hkept : ∀ k, HasKey (compact pref depth D1) k → HasKey D2 k ∧ ∀ x, Listed D1 x k → Listed D2 x k) :
    (∀ k, HasKey (compact pref depth D2) k ↔ HasKey (compact pref depth D1) k) ∧
    (∀ k x, Listed (compact pref depth D2) x k ↔ Listed (compact pref depth D1) x k) := by
  have fwd : ∀ k, HasKey (compact pref depth D2) k → HasKey (compact pref depth D1) k := fun k hk =>
    compact_hasKey_of ha hst u2 u1 hk (hkeys k (hasKey_mono compact_sub hk)) (hsub k) hkept
  have bwd : ∀ k, HasKey (compact pref depth D1) k → HasKey (compact pref depth D2) k := fun k hk =>
    compact_hasKey_of ha hst u1 u2 hk (hkept k hk).1 (hkept k hk).2
      (fun p hp => ⟨hkeys p (hasKey_mono compact_sub hp), hsub p⟩)
  refine ⟨fun k => ⟨fwd k, bwd k⟩, fun k x => ?_⟩
  rw [listed_of_subset compact_sub u2, listed_of_subset compact_sub u1]
  exact ⟨fun ⟨hk, hx⟩ => ⟨fwd k hk, hsub k x hx⟩, fun ⟨hk, hx⟩ => ⟨bwd k hk, (hkept k hk).2 x hx⟩⟩

theorem keysNodup_compact (pref : κ → κ → Bool) (depth : κ → Nat) (d : List (κ × List μ)) (h : KeysNodup d) :
    ∀ k v1 v2, (k, v1) ∈ compact pref depth d → (k, v2) ∈ compact pref depth d → v1 = v2 :=
  fun _ _ _ h1 h2 => (Prod.mk.inj (eq_of_nodup_map (keysNodup_compact_list pref depth h) h1 h2 rfl)).2

/-- **C18_reindex_oids**: building the index again from the same compile results, on top of the index just built, leaves the
`oids` section with the same keys and the same modules under every key. -/
theorem C18_reindex_oids (pref : κ → κ → Bool) (depth : κ → Nat) (ha : Admissible pref) (hst : Strict pref depth)
    (old : Idx κ μ) (hu : KeysNodup old.oids) (ms : List (μ × Summary κ)) :
    (∀ k, HasKey (build pref depth (build pref depth old ms) ms).oids k ↔ HasKey (build pref depth old ms).oids k) ∧
    (∀ k x, Listed (build pref depth (build pref depth old ms) ms).oids x k ↔ Listed (build pref depth old ms).oids x k) := by
  have u1 : KeysNodup (addModules old ms).oids := keysNodup_addModules filled_oids ms hu
  have hc : compact pref depth (addModules old ms).oids ⊆ _ := compact_sub
  -- the second build starts from the compacted dictionary
  rw [build_oids pref depth (build pref depth old ms), build_oids]
  generalize hB : build pref depth old ms = B
  have hBo : B.oids = compact pref depth (addModules old ms).oids := by rw [← hB, build_oids]
  refine compact_reindex pref depth ha hst _ _ u1
    (keysNodup_addModules filled_oids ms (hBo ▸ keysNodup_compact_list pref depth u1)) ?_ ?_ ?_
  · intro k
    rw [hasKey_addModules filled_oids, hBo]
    rintro (h | h)
    · exact hasKey_mono hc h
    · exact (hasKey_addModules filled_oids).mpr (Or.inr h)
  · intro k x
    rw [listed_addModules filled_oids, hBo]
    rintro (h | h)
    · exact listed_mono hc h
    · exact (listed_addModules filled_oids).mpr (Or.inr h)
  · intro k hk
    refine ⟨(hasKey_addModules filled_oids).mpr (Or.inl (hBo ▸ hk)), fun x hx => ?_⟩
    exact (listed_addModules filled_oids).mpr (Or.inl (hBo ▸ (listed_of_subset hc u1).mpr ⟨hk, hx⟩))

/-- **C18_reindex_sections**: re-indexing the same results lists no module anywhere new in the identity, enterprise and
compliance sections (and drops none: `C18_monotone`). -/
theorem C18_reindex_sections (pref : κ → κ → Bool) (depth : κ → Nat) (old : Idx κ μ) (ms : List (μ × Summary κ)) (x : μ) (k : κ) :
    (Listed (build pref depth (build pref depth old ms) ms).identity x k ↔ Listed (build pref depth old ms).identity x k) ∧
    (Listed (build pref depth (build pref depth old ms) ms).enterprise x k ↔ Listed (build pref depth old ms).enterprise x k) ∧
    (Listed (build pref depth (build pref depth old ms) ms).compliance x k ↔ Listed (build pref depth old ms).compliance x k) :=
  ⟨listed_addModules_again filled_identity old (build pref depth old ms) rfl,
   listed_addModules_again filled_enterprise old (build pref depth old ms) rfl,
   listed_addModules_again filled_compliance old (build pref depth old ms) rfl⟩

theorem dotPrefix_strict : Strict dotPrefix dotCount := by
  intro a b hp hne
  rcases dotPrefix_eq_true.mp hp with rfl | ⟨r, rfl⟩
  · exact absurd rfl hne
  · simp [dotCount, List.count_append]

/-- **C18_reindex_same** (strings, as in the code): after `genIndex` has been run on some compile results, running it again on
the same results on top of its own output gives an index with the same keys and the same modules under every key, in all four
sections. -/
theorem C18_reindex_same (old : Idx Str Str) (hu : KeysNodup old.oids) (ms : List (Str × Summary Str)) :
    (∀ k, HasKey (buildStr (buildStr old ms) ms).oids k ↔ HasKey (buildStr old ms).oids k) ∧
    (∀ k x, Listed (buildStr (buildStr old ms) ms).oids x k ↔ Listed (buildStr old ms).oids x k) ∧
    (∀ k x, (Listed (buildStr (buildStr old ms) ms).identity x k ↔ Listed (buildStr old ms).identity x k) ∧
      (Listed (buildStr (buildStr old ms) ms).enterprise x k ↔ Listed (buildStr old ms).enterprise x k) ∧
      (Listed (buildStr (buildStr old ms) ms).compliance x k ↔ Listed (buildStr old ms).compliance x k)) := by
  obtain ⟨h1, h2⟩ := C18_reindex_oids dotPrefix dotCount admissible_dotPrefix dotPrefix_strict old hu ms
  exact ⟨h1, h2, fun k x => C18_reindex_sections dotPrefix dotCount old ms x k⟩

example : KeysNodup (Idx.empty : Idx Str Str).oids := by simp [KeysNodup, Idx.empty]

end Pysmi.Index
