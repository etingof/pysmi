import Pysmi.Model.LR
/-!
# C02 (parser half) — the parse tree accounts for every token, in order, under *any* tables

`C02_lr_sound`: whatever the LR tables are (PLY's, or anything else), if the driver accepts a token
list then the tree it built is a valid derivation tree of the grammar's productions, rooted at the
start symbol, whose frontier is exactly the input token list: no token is dropped, duplicated or
reordered by the parser, for every input length.
-/
namespace Pysmi.LR

mutual
def Tree.Valid (T : Tables) : Tree → Prop
  | .leaf _ => True
  | .node p l ks => (∃ pr, T.prods[p]? = some pr ∧ pr.lhs = l ∧ pr.rhs = ks.map Tree.sym) ∧ ValidL T ks
def ValidL (T : Tables) : List Tree → Prop
  | [] => True
  | k :: ks => k.Valid T ∧ ValidL T ks
end

theorem frontierL_append (a b : List Tree) : frontierL (a ++ b) = frontierL a ++ frontierL b := by
  induction a with
  | nil => simp [frontierL]
  | cons k ks ih => simp [frontierL, ih, List.append_assoc]

theorem validL_append (T : Tables) (a b : List Tree) : ValidL T (a ++ b) ↔ ValidL T a ∧ ValidL T b := by
  induction a with
  | nil => simp [ValidL]
  | cons k ks ih => simp [ValidL, ih, and_assoc]

theorem validL_reverse (T : Tables) (a : List Tree) : ValidL T a.reverse ↔ ValidL T a := by
  induction a with
  | nil => simp
  | cons k ks ih =>
    simp only [List.reverse_cons, validL_append, ih, ValidL, and_true]
    exact And.comm

def stackFrontier (st : Stack) : List Token := frontierL ((st.map (·.2)).reverse)
def stackValid (T : Tables) (st : Stack) : Prop := ValidL T (st.map (·.2))

/-- induction over an accepting run: what holds when the driver accepts, and is carried back over every shift (of a token
other than the lexer-failure sentinel) and every reduction, holds of the stack and input the run started from -/
theorem run_ok_induction (T : Tables) {motive : Stack → List Token → Prop} {t : Tree}
    (accept : ∀ {s}, t.sym = T.start → motive [(s, t)] [])
    (shift : ∀ {st s tk rest}, tk.ty ≠ lexErrSym → motive ((s, .leaf tk) :: st) rest → motive st (tk :: rest))
    (reduce : ∀ {st p st' inp}, reduce T p st = .ok st' → motive st' inp → motive st inp) :
    ∀ (fuel : Nat) (st : Stack) (inp : List Token), run T fuel st inp = .ok t → motive st inp := by
  intro fuel st inp h
  fun_induction run T fuel st inp <;> try cases h  -- what is left: a shift, a reduction, the accepting exit
  next hne _ ih => exact shift (by simpa using hne) (ih h)
  next hr ih => exact reduce hr (ih h)
  next hs _ => exact accept hs

theorem reduce_sound {T : Tables} {p : Nat} {st st' : Stack} (hv : stackValid T st)
    (h : reduce T p st = .ok st') : stackValid T st' ∧ stackFrontier st' = stackFrontier st := by
  revert h
  fun_cases reduce T p st <;> intro h <;> try cases h  -- what is left: the one exit that returns a stack
  next pr hpr n _ kids hk _ _ _ =>
  have hsplit : st = st.take n ++ st.drop n := (List.take_append_drop _ _).symm
  have hvs : stackValid T (st.take n) ∧ stackValid T (st.drop n) := by
    rw [stackValid, stackValid, ← validL_append, ← List.map_append, ← hsplit]; exact hv
  refine ⟨⟨⟨⟨pr, hpr, rfl, hk.symm⟩, (validL_reverse _ _).mpr hvs.1⟩, hvs.2⟩, ?_⟩
  conv => rhs; rw [stackFrontier, hsplit]
  simp only [stackFrontier, List.map_cons, List.reverse_cons, frontierL_append, frontierL, Tree.frontier,
    List.append_nil, List.map_append, List.reverse_append, kids]
  rfl

theorem run_sound (T : Tables) : ∀ (fuel : Nat) (st : Stack) (inp : List Token) (t : Tree),
    stackValid T st → run T fuel st inp = .ok t →
    t.Valid T ∧ t.sym = T.start ∧ t.frontier = stackFrontier st ++ inp := by
  intro fuel st inp t hv h
  refine run_ok_induction T (motive := fun st inp => stackValid T st → _ ∧ _ ∧ t.frontier = stackFrontier st ++ inp)
    ?_ ?_ ?_ fuel st inp h hv
  · intro s hs hv
    exact ⟨hv.1, hs, by simp [stackFrontier, frontierL]⟩
  · intro st s tk rest _ ih hv
    obtain ⟨h1, h2, h3⟩ := ih ⟨trivial, hv⟩
    exact ⟨h1, h2, by simp [h3, stackFrontier, frontierL_append, frontierL, Tree.frontier]⟩
  · intro st p st' inp hr ih hv
    obtain ⟨hv', hf⟩ := reduce_sound hv hr
    exact hf ▸ ih hv'

/-- **C02_lr_sound**: for arbitrary tables, an accepted token list is exactly the frontier of the valid
derivation tree the driver returns. -/
theorem C02_lr_sound (T : Tables) (fuel : Nat) (inp : List Token) (t : Tree) (h : run T fuel [] inp = .ok t) :
    t.Valid T ∧ t.sym = T.start ∧ t.frontier = inp :=
  run_sound T fuel [] inp t trivial h

/-- an accepted input never contains the lexer-failure sentinel: a text whose scanning fails is never
accepted -/
theorem C02_no_accept_past_lexer_error (T : Tables) : ∀ (fuel : Nat) (st : Stack) (inp : List Token) (t : Tree),
    run T fuel st inp = .ok t → ∀ tk ∈ inp, tk.ty ≠ lexErrSym := by
  intro fuel st inp t
  refine run_ok_induction T (motive := fun _ inp => ∀ tk ∈ inp, tk.ty ≠ lexErrSym) ?_ ?_ ?_ fuel st inp
  · intro _ _ _ h; cases h
  · intro _ _ tk rest hne ih
    exact List.forall_mem_cons.mpr ⟨hne, ih⟩
  · intro _ _ _ _ _ ih; exact ih

end Pysmi.LR
