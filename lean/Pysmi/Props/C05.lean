import Pysmi.Model.Syntax
import Pysmi.Lemmas.Except
/-!
# C05 — types, constraints and default values survive compilation exactly

* literals: decimal, hexadecimal and binary spellings of one integer denote the same value, for
  every magnitude (`C05_literal_denotation`), and empty hex/bin strings are rejected;
* ranges and SIZE lists: every alternative is emitted, in order, single values as `min = max`
  (`C05_ranges_in_order`), for lists of any length;
* base type: for chains of derived types of any length across any modules `getBaseType` returns the
  base type at the end of the chain and the enumeration/bit lists met on the way, own list first
  (`C05_basetype_sound/complete`);
* DEFVAL: the emitted form as a function of the resolved base type (`C05_defval_*`).
-/
namespace Pysmi.Syntax

def digitChar (d : Nat) : Char := if d < 10 then Char.ofNat (48 + d) else Char.ofNat (87 + d)

theorem digitVal_digitChar : ∀ d, d < 16 → digitVal (digitChar d) = some d := by decide +kernel

/-- least significant digit first -/
def lsd (b : Nat) : Nat → Nat → List Nat
  | 0, _ => []
  | fuel + 1, n => n % b :: (if n / b = 0 then [] else lsd b fuel (n / b))

theorem foldr_lsd {b : Nat} (hb : 2 ≤ b) {fuel n : Nat} (h : n < fuel) :
    (lsd b fuel n).foldr (fun d a => a * b + d) 0 = n := by
  induction fuel generalizing n with
  | zero => omega
  | succ fuel ih =>
    unfold lsd
    by_cases hz : n / b = 0
    · have : n < b := (Nat.div_eq_zero_iff.mp hz).resolve_left (by omega)
      simp [hz, Nat.mod_eq_of_lt this]
    · have hlt : n / b < n := Nat.div_lt_self (Nat.pos_of_ne_zero fun h0 => hz (by simp [h0])) hb
      rw [if_neg hz, List.foldr_cons, ih (n := n / b) (by omega)]
      exact Nat.div_add_mod' n b

theorem lsd_lt {b : Nat} (hb : 0 < b) {fuel n : Nat} : ∀ d ∈ lsd b fuel n, d < b := by
  induction fuel generalizing n with
  | zero => simp [lsd]
  | succ fuel ih =>
    intro d hd
    unfold lsd at hd
    rcases List.mem_cons.mp hd with rfl | hd
    · exact Nat.mod_lt _ hb
    · split at hd
      · cases hd
      · exact ih d hd

/-- the digit string of `n` in base `b`, most significant first -/
def render (b n : Nat) : List Char := ((lsd b (n + 1) n).reverse).map digitChar

theorem parseDigits_map {b : Nat} (hb16 : b ≤ 16) {ds : List Nat} (hds : ∀ d ∈ ds, d < b) (acc : Nat) :
    parseDigits b (ds.map digitChar) acc = some (ds.foldl (fun a d => a * b + d) acc) := by
  induction ds generalizing acc with
  | nil => rfl
  | cons d ds ih =>
    have hd : d < b := hds d (by simp)
    simp only [List.map_cons, parseDigits, digitVal_digitChar d (by omega), hd, if_true, List.foldl_cons]
    exact ih (fun x hx => hds x (by simp [hx])) _

theorem parse_render (b : Nat) (hb : 2 ≤ b) (hb16 : b ≤ 16) (n : Nat) : parseDigits b (render b n) 0 = some n := by
  have hlt : ∀ d ∈ (lsd b (n + 1) n).reverse, d < b := fun d hd => lsd_lt (by omega) d (List.mem_reverse.mp hd)
  rw [render, parseDigits_map hb16 hlt, List.foldl_reverse, foldr_lsd hb (Nat.lt_add_one n)]

theorem render_cons (b : Nat) (hb : 2 ≤ b) (hb16 : b ≤ 16) (n : Nat) :
    ∃ c cs, render b n = c :: cs ∧ parseDigits b (c :: cs) 0 = some n := by
  cases hr : render b n with
  | nil => simp [render, lsd] at hr
  | cons c cs => exact ⟨c, cs, rfl, hr ▸ parse_render b hb hb16 n⟩

/-- **C05_literal_denotation**: the hexadecimal and binary spellings of a natural number, and its
decimal token, all denote that number — for every magnitude. -/
theorem C05_literal_denotation (n : Nat) :
    str2int (.hex (render 16 n)) = .ok (n : Int) ∧ str2int (.bin (render 2 n)) = .ok (n : Int) ∧
    str2int (.dec n) = .ok (n : Int) := by
  obtain ⟨c, cs, hr, h⟩ := render_cons 16 (by omega) (by omega) n
  obtain ⟨c', cs', hr', h'⟩ := render_cons 2 (by omega) (by omega) n
  exact ⟨by simp [hr, str2int, h], by simp [hr', str2int, h'], rfl⟩

/-- upper-case hex digits denote the same values as lower-case ones -/
theorem C05_hex_case : digitVal 'A' = digitVal 'a' ∧ digitVal 'B' = digitVal 'b' ∧ digitVal 'C' = digitVal 'c' ∧
    digitVal 'D' = digitVal 'd' ∧ digitVal 'E' = digitVal 'e' ∧ digitVal 'F' = digitVal 'f' := by decide +kernel

/-- empty hex / binary strings are a semantic error, not zero -/
theorem C05_empty_literal : str2int (.hex []) = .error .emptyHex ∧ str2int (.bin []) = .error .emptyBin := ⟨rfl, rfl⟩

/-- element-wise relation between two lists of the same length -/
inductive Zip2 {α β : Type} (R : α → β → Prop) : List α → List β → Prop
  | nil : Zip2 R [] []
  | cons {a b as bs} : R a b → Zip2 R as bs → Zip2 R (a :: as) (b :: bs)

/-- the (min, max) an alternative denotes, when its literals are well formed -/
def altDenotes (a : Alt) (r : Int × Int) : Prop :=
  match a with
  | .single v => str2int v = .ok r.1 ∧ r.2 = r.1
  | .range lo hi => str2int lo = .ok r.1 ∧ str2int hi = .ok r.2

/-- **C05_ranges_in_order**: the emitted list has one entry per written alternative, in the written
order, a single value giving `min = max` — for lists of any length. -/
theorem C05_ranges_in_order (alts : List Alt) (out : List (Int × Int)) (h : genRanges alts = .ok out) :
    Zip2 altDenotes alts out := by
  induction alts generalizing out with
  | nil => cases h; exact .nil
  | cons a rest ih =>
    cases a with
    | single v =>
      simp only [genRanges, Except.bind_eq_ok, Except.pure_eq_ok] at h
      obtain ⟨x, hx, r, hr, rfl⟩ := h
      exact .cons ⟨hx, rfl⟩ (ih r hr)
    | range lo hi =>
      simp only [genRanges, Except.bind_eq_ok, Except.pure_eq_ok] at h
      obtain ⟨a, ha, b, hb, r, hr, rfl⟩ := h
      exact .cons ⟨ha, hb⟩ (ih r hr)

/-- specification: `n` of module `m` resolves to base type `b` with merged list `sub` -/
inductive Resolves (isBase : Name → Bool) (empty : Name) (T : Types) :
    Name → Module → Name → Option (List (Name × Int)) → Prop
  | base {n m ti} : T m n = some ti → ti.base ≠ empty → isBase ti.base = true →
      Resolves isBase empty T n m ti.base ti.sub
  | step {n m ti b below} : T m n = some ti → ti.base ≠ empty → isBase ti.base = false →
      Resolves isBase empty T ti.base ti.module b below →
      Resolves isBase empty T n m b (mergeSub ti.sub below)

theorem C05_basetype_sound (isBase : Name → Bool) (empty : Name) (T : Types) (fuel : Nat) (n : Name) (m : Module)
    (b : Name) (sub : Option (List (Name × Int)))
    (h : getBaseType isBase empty T fuel n m = .ok (b, sub)) : Resolves isBase empty T n m b sub := by
  fun_induction getBaseType isBase empty T fuel n m generalizing b sub with
  -- the two branches that answer: a base type is found, or the call further down the chain has answered
  | case4 fuel n m ti hti hne hb => cases h; exact .base hti hne hb
  | case6 fuel n m ti hti hne hb b' below hrec ih => cases h; exact .step hti hne (by simpa using hb) (ih _ _ hrec)
  | case1 | case2 | case3 | case5 => cases h

/-- the base type found at the end of a chain is a base type -/
theorem C05_basetype_is_base (isBase : Name → Bool) (empty : Name) (T : Types) (n : Name) (m : Module) (b : Name)
    (sub : Option (List (Name × Int))) (h : Resolves isBase empty T n m b sub) : isBase b = true := by
  induction h with
  | base _ _ hb => exact hb
  | step _ _ _ _ ih => exact ih

/-- **C05_basetype_complete**: for every (acyclic) chain of derived types, of any length and across any
modules, the resolver returns the base type at its end and the merged lists, given the recursion
depth of the chain. -/
theorem C05_basetype_complete (isBase : Name → Bool) (empty : Name) (T : Types) (n : Name) (m : Module) (b : Name)
    (sub : Option (List (Name × Int))) (h : Resolves isBase empty T n m b sub) :
    ∃ fuel0, ∀ fuel, fuel0 ≤ fuel → getBaseType isBase empty T fuel n m = .ok (b, sub) := by
  induction h with
  | base ht hne hb =>
    refine ⟨1, fun fuel hle => ?_⟩
    obtain ⟨f, rfl⟩ := Nat.exists_eq_add_of_lt hle
    simp [getBaseType, ht, hne, hb]
  | step ht hne hb _ ih =>
    obtain ⟨f0, hf⟩ := ih
    refine ⟨f0 + 1, fun fuel hle => ?_⟩
    obtain ⟨f, rfl⟩ := Nat.exists_eq_add_of_lt hle
    simp [getBaseType, ht, hne, hb, hf (f0 + f) (by omega)]

/-- a name resolves in at most one way (the resolver computes each of them) -/
theorem C05_basetype_functional (isBase : Name → Bool) (empty : Name) (T : Types) (n : Name) (m : Module)
    (b b' : Name) (s s' : Option (List (Name × Int)))
    (h : Resolves isBase empty T n m b s) (h' : Resolves isBase empty T n m b' s') : b = b' ∧ s = s' :=
  Prod.mk.inj (Except.ok_unique (C05_basetype_complete isBase empty T n m b s h)
    (C05_basetype_complete isBase empty T n m b' s' h'))

/-- **C05_defval_number**: a decimal DEFVAL is emitted as that number whatever the base type. -/
theorem C05_defval_number (i o b t : Bool) (e : Option (List (Name × Int))) (k : Name → Bool) (v : Int) :
    genDefVal i o b t e k (.num v) = .decimal v := rfl

/-- **C05_defval_hex**: a hex literal on an integer base is the integer it denotes; on any other base its
digits verbatim. -/
theorem C05_defval_hex (o b t : Bool) (e : Option (List (Name × Int))) (k : Name → Bool) (n : Nat) :
    genDefVal true o b t e k (.hex (render 16 n)) = .hexOfInt n ∧
    genDefVal false o b t e k (.hex (render 16 n)) = .hexDigits (render 16 n) := by
  obtain ⟨c, cs, hr, h⟩ := render_cons 16 (by omega) (by omega) n
  simp [genDefVal, hr, h]

theorem C05_defval_bin (o b t : Bool) (e : Option (List (Name × Int))) (k : Name → Bool) (n : Nat) :
    genDefVal true o b t e k (.bin (render 2 n)) = .binOfInt n ∧
    genDefVal false o b t e k (.bin (render 2 n)) = .hexOfBin (some (((render 2 n).length + 3) / 4, n)) := by
  obtain ⟨c, cs, hr, h⟩ := render_cons 2 (by omega) (by omega) n
  simp [genDefVal, hr, h]

/-- **C05_defval_enum**: an enumeration label is emitted iff it is a member of the enumeration resolved
through the chain of derived types. -/
theorem C05_defval_enum (t : Bool) (l : List (Name × Int)) (k : Name → Bool) (n : Name) :
    genDefVal true false false t (some l) k (.label n) = .enum n ↔ ∃ v, (n, v) ∈ l := by
  have hany : l.any (·.1 == n) = true ↔ ∃ v, (n, v) ∈ l := by
    simp only [List.any_eq_true, beq_iff_eq, Prod.exists]
    exact ⟨fun ⟨_, v, h, e⟩ => ⟨v, e ▸ h⟩, fun ⟨v, h⟩ => ⟨n, v, h, rfl⟩⟩
  simp only [genDefVal, Bool.false_and, Bool.false_eq_true, if_false, if_true, ← hany]
  split <;> simp [*]

/-- **C05_defval_string**: a non-empty string DEFVAL is emitted verbatim on every base type; the empty string is kept on
OCTET STRING and dropped on every other base (the "common mistake in MIBs" the code means to tolerate). -/
theorem C05_defval_string (i o b t : Bool) (e : Option (List (Name × Int))) (k : Name → Bool) (s : List Char)
    (hs : s ≠ [] ∨ t = true) : genDefVal i o b t e k (.str s) = .string s := by
  cases s with
  | nil =>
    rcases hs with hs | hs
    · exact absurd rfl hs
    · subst hs; simp [genDefVal]
  | cons c cs => simp [genDefVal]

theorem C05_defval_empty_string_dropped (i o b : Bool) (e : Option (List (Name × Int))) (k : Name → Bool) :
    genDefVal i o b false e k (.str []) = .nothing := by simp [genDefVal]

/-- **C05_defval_oid**: a label on an OBJECT IDENTIFIER base that names a known symbol is resolved to
that symbol's OID. -/
theorem C05_defval_oid (i b t : Bool) (e : Option (List (Name × Int))) (k : Name → Bool) (n : Name) (hk : k n = true) :
    genDefVal i true b t e k (.label n) = .oidOf n := by simp [genDefVal, hk]

/-! ### non-vacuity -/
example : render 16 255 = ['f', 'f'] ∧ render 2 5 = ['1', '0', '1'] ∧ render 16 0 = ['0'] := by decide +kernel
example : str2int (.hex "7FffFFFF".toList) = .ok 2147483647 := by decide +kernel
example : getBaseType (· == 1) 0 (fun m n => match m, n with
    | 0, 10 => some ⟨11, 1, some [(5, 1)]⟩ | 1, 11 => some ⟨12, 1, none⟩ | 1, 12 => some ⟨1, 0, some [(6, 2)]⟩ | _, _ => none)
    5 10 0 = .ok (1, some [(5, 1), (6, 2)]) := by decide +kernel

end Pysmi.Syntax
