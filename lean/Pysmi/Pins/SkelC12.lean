import Pysmi.Generated.Skeletons
/-!
# Pins (C12): the control skeletons the hand-written models and oracles were written against

`Generated/Skeletons.lean` is rewritten from the source on every run (calls other than logging, string plumbing and pure
builtins, raises with their exception class, returns, loops, branches, handlers - in source order; for the scripts also the
exit status of every `sys.exit`).  A structural change of one of these methods breaks its pin - which is not by itself a
violation: the check then searches model and code for a failing input and reports what it finds.
(Literals written by harness/tools/repin.py when the models were last brought in line with the source.)
-/
namespace Pysmi.Pins.SkelC12
open Pysmi.Generated.Skeletons

/-- SmiV2Lexer.reset (pysmi/lexer/smi.py) -/
theorem pin_lexerReset : lexerReset = [
    "if", "call:lex.lex", "if", "call:lex.NullLogger", "if", "call:lex.lex"] := rfl

end Pysmi.Pins.SkelC12
