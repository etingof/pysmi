import Pysmi.Model.Writer
/-!
# C13 — writing a module is atomic under I/O faults; dry-run touches nothing

Full statement: for every fault script (any error or short write at any system call of
`putData`, any number of short writes), every data size, fresh or existing destination and
both file writers, after the call the destination holds its previous content or the complete
new text (after a byte-compilation failure it may be absent), never a partial file; no
temporary file remains; a fault surfaces as the writer error; success means the full text is
stored; dry-run changes nothing. For two concurrent writers of the same module the
destination is never partial under **any** schedule.

`step` is used through one equation (`step_eq`) and three frame lemmas (what a step never
touches). A run ends from any state, under any script (`runOne_finishes`). `Solo` is the
single-writer invariant of the small-step machine, preserved by every step under every fault
(`solo_step`); `C13_atomic` reads its conclusions off the finished state. `Local` is what a writer
knows of its own temp file whatever other writers do; `Inv2` carries two `Local` writers through
any schedule.
`C13_short_write_witness` is the defect of the code before commit 666a317.
-/
namespace Pysmi.Writer

/-- no `error` fault in the rest of the script -/
def NoErr (fl : List Fault) : Prop := ∀ f ∈ fl, f ≠ Fault.error
/-- at most one `error` fault in the script ("whichever single I/O step fails") -/
def AtMostOne : List Fault → Prop
  | [] => True
  | f :: fl => if f = Fault.error then NoErr fl else AtMostOne fl

theorem NoErr.tail {f : Fault} {fl : List Fault} (h : NoErr (f :: fl)) : NoErr fl :=
  fun g hg => h g (List.mem_cons_of_mem f hg)

theorem NoErr.atMostOne {fl : List Fault} (h : NoErr fl) : AtMostOne fl := by
  induction fl with
  | nil => trivial
  | cons f fl ih => simp only [AtMostOne, h f List.mem_cons_self, if_false]; exact ih h.tail

theorem AtMostOne.tail {f : Fault} {fl : List Fault} (h : AtMostOne (f :: fl)) : AtMostOne fl := by
  unfold AtMostOne at h
  split at h
  · exact h.atMostOne
  · exact h

theorem AtMostOne.noErr {fl : List Fault} (h : AtMostOne (.error :: fl)) : NoErr fl := h

@[simp] theorem FS.log_dest (fs : FS) (i : Nat) (s : Sys) : (fs.log i s).dest = fs.dest := rfl
@[simp] theorem FS.log_tmp (fs : FS) (i : Nat) (s : Sys) : (fs.log i s).tmp = fs.tmp := rfl
@[simp] theorem FS.setTmp_dest (fs : FS) (i : Nat) (c : Option Content) :
    (fs.setTmp i c).dest = fs.dest := rfl
@[simp] theorem FS.setTmp_self (fs : FS) (i : Nat) (c : Option Content) :
    (fs.setTmp i c).tmp i = c := if_pos rfl
theorem FS.setTmp_of_ne {fs : FS} {i j : Nat} {c : Option Content} (h : j ≠ i) :
    (fs.setTmp i c).tmp j = fs.tmp j := if_neg h

/-- bytes still unwritten after one `os.write` of `r` bytes under fault `f`: a complete write
is the short write that leaves nothing -/
def Fault.left : Fault → Nat → Nat
  | .short j, r => r - min (j + 1) r
  | _, _ => 0

/-- every write makes progress; `r - 1` lets the bound hold of `r = 0` as well -/
theorem Fault.left_le (f : Fault) (r : Nat) : f.left r ≤ r - 1 := by
  cases f <;> simp only [Fault.left] <;> omega

/-- `step`, with a fault told apart only as `error` or not and every write leaving `f.left` -/
theorem step_eq (f : Fault) (w : W) (fs : FS) : step f w fs =
    match w.pc with
    | .done _ => (w, fs)
    | .start =>
      if fs.dirExists then ({ w with pc := .mkstemp }, fs)
      else if f = .error then ({ w with pc := .done .writerError }, fs.log w.id .makedirs)
      else ({ w with pc := .mkstemp }, { fs.log w.id .makedirs with dirExists := true })
    | .mkstemp =>
      if f = .error then ({ w with pc := .done .writerError }, fs.log w.id .mkstemp)
      else ({ w with pc := if w.remaining = 0 then .close else .write, hasTmp := true },
            (fs.log w.id .mkstemp).setTmp w.id (some (.data w.id 0)))
    | .write =>
      if f = .error then ({ w with pc := .cleanup }, fs.log w.id .write)
      else ({ w with remaining := f.left w.remaining,
                     pc := if f.left w.remaining = 0 then .close else .write },
            (fs.log w.id .write).setTmp w.id (some (.data w.id (w.len - f.left w.remaining))))
    | .close => ({ w with pc := if f = .error then .cleanup else .rename }, fs.log w.id .close)
    | .rename =>
      if f = .error then ({ w with pc := .cleanup }, fs.log w.id .rename)
      else ({ w with pc := if w.kind = .py ∧ w.pyCompile then .compile else .done .ok },
            { (fs.log w.id .rename).setTmp w.id none with dest := (fs.tmp w.id).getD .absent })
    | .cleanup =>
      if fs.tmp w.id = none then ({ w with pc := .done .writerError }, fs)
      else if f = .error then
        ({ w with pc := .done (if w.kind = .file then .writerError else .osError) }, fs.log w.id .unlink)
      else ({ w with pc := .done .writerError }, (fs.log w.id .unlink).setTmp w.id none)
    | .compile => ({ w with pc := if f = .error then .rmmodule else .done .ok }, fs.log w.id .pycompile)
    | .rmmodule =>
      if fs.dest = .absent then ({ w with pc := .done .writerError }, fs)
      else if f = .error then ({ w with pc := .done .osError }, fs.log w.id .unlink)
      else ({ w with pc := .done .writerError }, { fs.log w.id .unlink with dest := .absent }) := by
  unfold step
  cases w.pc
  case cleanup => cases fs.tmp w.id <;> cases f <;> rfl
  case rmmodule => cases fs.dest <;> cases f <;> rfl
  all_goals cases f <;> rfl

/-! What no step touches, read off the branches of `step`: the writer's identity and text, the
temp slots of other writers, and the destination other than by `rename` or by the removal
after a failed byte-compilation. -/

theorem step_static (f : Fault) (w : W) (fs : FS) :
    (step f w fs).1.id = w.id ∧ (step f w fs).1.kind = w.kind ∧ (step f w fs).1.len = w.len := by
  unfold step
  repeat' split
  all_goals exact ⟨rfl, rfl, rfl⟩

theorem step_tmp_other (f : Fault) {w : W} (fs : FS) {i : Nat} (hi : i ≠ w.id) :
    (step f w fs).2.tmp i = fs.tmp i := by
  unfold step
  repeat' split
  all_goals first | rfl | exact FS.setTmp_of_ne hi

theorem step_dest (f : Fault) (w : W) (fs : FS) :
    (step f w fs).2.dest = fs.dest ∨ (step f w fs).2.dest = .absent ∨
      w.pc = .rename ∧ (step f w fs).2.dest = (fs.tmp w.id).getD .absent := by
  unfold step
  repeat' split
  all_goals first | exact .inl rfl | exact .inr (.inl rfl) | exact .inr (.inr ⟨‹_›, rfl⟩)

/-- the driver step: consume a fault only when the next step issues a faultable call -/
def drive (fl : List Fault) (w : W) (fs : FS) : List Fault × W × FS :=
  if needsFault w fs then
    match fl with
    | [] => ([], step .none w fs)
    | f :: fl => (fl, step f w fs)
  else (fl, step .none w fs)

theorem drive_spec (fl : List Fault) (w : W) (fs : FS) :
    ∃ f, (drive fl w fs).2 = step f w fs ∧
      (fl = f :: (drive fl w fs).1 ∨ f = .none ∧ (drive fl w fs).1 = fl) := by
  unfold drive
  split
  · cases fl with
    | nil => exact ⟨_, rfl, .inr ⟨rfl, rfl⟩⟩
    | cons f fl => exact ⟨_, rfl, .inl rfl⟩
  · exact ⟨_, rfl, .inr ⟨rfl, rfl⟩⟩

theorem runOne_succ (fuel : Nat) (fl : List Fault) (w : W) (fs : FS) :
    runOne (fuel + 1) fl w fs =
      if w.finished then (w, fs) else runOne fuel (drive fl w fs).1 (drive fl w fs).2.1 (drive fl w fs).2.2 := by
  unfold drive
  conv => lhs; unfold runOne
  split
  · rfl
  · split
    · cases fl <;> rfl
    · rfl

/-! ### termination, from any state: the program counter only moves forward, except from a write to the next write,
which has less left to write -/

def rank : PC → Nat
  | .start => 8 | .mkstemp => 7 | .write => 6 | .close => 5 | .rename => 4
  | .compile => 3 | .cleanup => 2 | .rmmodule => 1 | .done _ => 0

def measure (w : W) : Nat := w.remaining + rank w.pc

theorem step_decreases (f : Fault) {w : W} (fs : FS) (hnf : w.finished = false) :
    measure (step f w fs).1 < measure w := by
  have := f.left_le w.remaining
  unfold measure
  rw [step_eq]
  cases hpc : w.pc <;> dsimp only
  case done => simp [W.finished, hpc] at hnf
  all_goals (repeat' split) <;> simp [rank] <;> omega

theorem runOne_finishes {fuel : Nat} {fl : List Fault} {w : W} {fs : FS} (hm : measure w ≤ fuel) :
    (runOne fuel fl w fs).1.finished = true := by
  induction fuel generalizing fl w fs with
  | zero =>
    cases hpc : w.pc <;> simp [measure, rank, hpc] at hm
    simp [runOne, W.finished, hpc]
  | succ fuel ih =>
    rw [runOne_succ]
    cases hf : w.finished with
    | true => exact hf
    | false =>
      obtain ⟨f, hd, -⟩ := drive_spec fl w fs
      have hlt := step_decreases f fs hf
      rw [← hd] at hlt
      exact ih (by omega)

/-- single-writer invariant; `prev` is the destination's content before the call -/
def Solo (prev : Content) (w : W) (fs : FS) (fl : List Fault) : Prop :=
  match w.pc with
  | .start => fs.dest = prev ∧ fs.tmp w.id = none ∧ w.remaining = w.len ∧ AtMostOne fl
  | .mkstemp => fs.dest = prev ∧ fs.tmp w.id = none ∧ w.remaining = w.len ∧ AtMostOne fl
  | .write => fs.dest = prev ∧ fs.tmp w.id = some (.data w.id (w.len - w.remaining)) ∧
      0 < w.remaining ∧ w.remaining ≤ w.len ∧ AtMostOne fl
  | .close => fs.dest = prev ∧ fs.tmp w.id = some (.data w.id w.len) ∧ AtMostOne fl
  | .rename => fs.dest = prev ∧ fs.tmp w.id = some (.data w.id w.len) ∧ AtMostOne fl
  | .cleanup => fs.dest = prev ∧ (fs.tmp w.id).isSome ∧ NoErr fl
  | .compile => fs.dest = .data w.id w.len ∧ fs.tmp w.id = none ∧ w.kind = .py ∧ AtMostOne fl
  | .rmmodule => fs.dest = .data w.id w.len ∧ fs.tmp w.id = none ∧ w.kind = .py ∧ NoErr fl
  | .done .ok => fs.dest = .data w.id w.len ∧ fs.tmp w.id = none
  | .done .writerError => (fs.dest = prev ∨ (fs.dest = .absent ∧ w.kind = .py)) ∧ fs.tmp w.id = none
  | .done .osError => False

/-- **the invariant is preserved by every step under every fault**; the script `f :: fl` pays
for the fault `f` of this step. -/
theorem solo_step {prev : Content} {w : W} {fs : FS} {f : Fault} {fl : List Fault}
    (h : Solo prev w fs (f :: fl)) (hnf : w.finished = false) :
    Solo prev (step f w fs).1 (step f w fs).2 fl := by
  rw [step_eq]
  cases hpc : w.pc <;> simp only [Solo, hpc] at h <;> dsimp only
  case done r => simp [W.finished, hpc] at hnf
  case start =>
    obtain ⟨h1, h2, h3, h4⟩ := h
    split
    · exact ⟨h1, h2, h3, h4.tail⟩
    · split
      · exact ⟨.inl h1, h2⟩
      · exact ⟨h1, h2, h3, h4.tail⟩
  case mkstemp =>
    obtain ⟨h1, h2, h3, h4⟩ := h
    split
    · exact ⟨.inl h1, h2⟩
    · by_cases hr : w.remaining = 0
      · simp [Solo, hr, h1, h4.tail, ← h3]
      · simp [Solo, hr, h1, h4.tail, ← h3]; omega
  case write =>
    obtain ⟨h1, h2, h3, h4, h5⟩ := h
    split
    · next hf => subst hf; exact ⟨h1, by simp [h2], h5.noErr⟩
    · have := f.left_le w.remaining
      by_cases hr : f.left w.remaining = 0
      · simp [Solo, hr, h1, h5.tail]
      · simp [Solo, hr, h1, h5.tail]; omega
  case close =>
    obtain ⟨h1, h2, h3⟩ := h
    by_cases hf : f = .error
    · subst hf; exact ⟨h1, by simp [h2], h3.noErr⟩
    · simp only [hf, if_false]; exact ⟨h1, h2, h3.tail⟩
  case rename =>
    obtain ⟨h1, h2, h3⟩ := h
    split
    · next hf => subst hf; exact ⟨h1, by simp [h2], h3.noErr⟩
    · by_cases hk : w.kind = .py ∧ w.pyCompile = true
      · simp [Solo, hk, h2, h3.tail]
      · simp [Solo, hk, h2]
  case cleanup =>
    obtain ⟨h1, h2, h3⟩ := h
    rw [if_neg (Option.isSome_iff_ne_none.mp h2), if_neg (h3 f List.mem_cons_self)]
    exact ⟨.inl h1, by simp⟩
  case compile =>
    obtain ⟨h1, h2, h3, h4⟩ := h
    by_cases hf : f = .error
    · subst hf; exact ⟨h1, h2, h3, h4.noErr⟩
    · simp only [hf, if_false]; exact ⟨h1, h2⟩
  case rmmodule =>
    obtain ⟨h1, h2, h3, h4⟩ := h
    rw [if_neg (by simp [h1]), if_neg (h4 f List.mem_cons_self)]
    exact ⟨.inr ⟨rfl, h3⟩, h2⟩

theorem solo_cons_none {prev : Content} {w : W} {fs : FS} {fl : List Fault} (h : Solo prev w fs fl) :
    Solo prev w fs (.none :: fl) := by
  have h0 : NoErr (.none :: fl) ↔ NoErr fl := List.forall_mem_cons.trans (and_iff_right nofun)
  have h1 : AtMostOne (.none :: fl) ↔ AtMostOne fl := Iff.rfl
  simpa only [Solo, h0, h1] using h

theorem solo_drive (prev : Content) (w : W) (fs : FS) (fl : List Fault) (h : Solo prev w fs fl)
    (hnf : w.finished = false) :
    Solo prev (drive fl w fs).2.1 (drive fl w fs).2.2 (drive fl w fs).1 := by
  obtain ⟨f, hs, hfl | ⟨rfl, hfl⟩⟩ := drive_spec fl w fs
  · rw [hs]; rw [hfl] at h; exact solo_step h hnf
  · rw [hs, hfl]; exact solo_step (solo_cons_none h) hnf

theorem solo_runOne {prev : Content} (fuel : Nat) {fl : List Fault} {w : W} {fs : FS}
    (h : Solo prev w fs fl) :
    (∃ fl', Solo prev (runOne fuel fl w fs).1 (runOne fuel fl w fs).2 fl') ∧
    (runOne fuel fl w fs).1.id = w.id ∧ (runOne fuel fl w fs).1.kind = w.kind ∧
    (runOne fuel fl w fs).1.len = w.len := by
  induction fuel generalizing fl w fs with
  | zero => exact ⟨⟨fl, h⟩, rfl, rfl, rfl⟩
  | succ fuel ih =>
    rw [runOne_succ]
    cases hf : w.finished with
    | true => exact ⟨⟨fl, h⟩, rfl, rfl, rfl⟩
    | false =>
      obtain ⟨r1, r2, r3, r4⟩ := ih (solo_drive prev w fs fl h hf)
      obtain ⟨f, hd, -⟩ := drive_spec fl w fs
      obtain ⟨i1, i2, i3⟩ := step_static f w fs
      rw [← hd] at i1 i2 i3
      exact ⟨r1, r2.trans i1, r3.trans i2, r4.trans i3⟩

/-- **C13_terminates**: `putData` finishes for every fault script and data size. -/
theorem C13_terminates (kind : Kind) (len : Nat) (pyc : Bool) (fl : List Fault) (fs : FS)
    (ht : fs.tmp 0 = none) (h1 : AtMostOne fl) :
    (runOne (fuelFor len) fl (mkW 0 kind len pyc) fs).1.finished = true :=
  -- `measure (mkW …) = len + rank .start = len + 8`, and `fuelFor len = len + 10`
  runOne_finishes (Nat.add_le_add_left (by decide : 8 ≤ 10) len)

/-- **C13_atomic**: for every fault script with at most one `error` (any number of short
writes), both writers, every size, fresh or existing destination: the result is `ok` or the
writer error; the destination is its previous content or the complete new text (or absent
after a failed byte-compilation); no temporary file remains; `ok` ⇒ the full text is stored. -/
theorem C13_atomic (kind : Kind) (len : Nat) (pyc : Bool) (fl : List Fault) (fs : FS)
    (ht : fs.tmp 0 = none) (h1 : AtMostOne fl) (r : Res × FS) (hr : r = put kind len pyc false fl fs) :
    (r.1 = .ok ∨ r.1 = .writerError) ∧
    (r.2.dest = fs.dest ∨ r.2.dest = .data 0 len ∨ (r.2.dest = .absent ∧ kind = .py ∧ r.1 = .writerError)) ∧
    r.2.tmp 0 = none ∧
    (r.1 = .ok → r.2.dest = .data 0 len) ∧
    (r.1 = .writerError → r.2.dest ≠ .data 0 len ∨ fs.dest = .data 0 len) := by
  have hfin := C13_terminates kind len pyc fl fs ht h1
  obtain ⟨⟨fl', hs⟩, (hid : _ = 0), (hkind : _ = kind), (hlen : _ = len)⟩ :=
    solo_runOne (fuelFor len) (show Solo fs.dest (mkW 0 kind len pyc) fs fl from ⟨rfl, ht, rfl, h1⟩)
  subst hr
  unfold put
  simp only [Bool.false_eq_true, if_false]
  generalize runOne (fuelFor len) fl (mkW 0 kind len pyc) fs = R at *
  cases hpc : R.1.pc with
  | done res =>
    cases res with
    | ok =>
      simp only [Solo, hpc, hid, hlen] at hs
      simp [hs.1, hs.2]
    | writerError =>
      simp only [Solo, hpc, hid, hkind] at hs
      rcases hs.1 with hd | ⟨hd, hk⟩
      · by_cases hq : fs.dest = .data 0 len <;> simp [hd, hs.2, hq]
      · simp [hd, hs.2, hk]
    | osError => simp [Solo, hpc] at hs
  | _ => simp [W.finished, hpc] at hfin

/-- **C13_dryrun**: in dry-run mode nothing is touched and no call is issued. -/
theorem C13_dryrun (kind : Kind) (len : Nat) (pyc : Bool) (fl : List Fault) (fs : FS) :
    put kind len pyc true fl fs = (.ok, fs) := rfl

def fs0x : FS := { dirExists := true, dest := .old, tmp := fun _ => none }

/-- what a writer knows about its own temp file, whatever other writers do -/
def Local (w : W) (fs : FS) : Prop :=
  match w.pc with
  | .start => w.remaining = w.len
  | .mkstemp => w.remaining = w.len
  | .write => fs.tmp w.id = some (.data w.id (w.len - w.remaining)) ∧ 0 < w.remaining ∧ w.remaining ≤ w.len
  | .close => fs.tmp w.id = some (.data w.id w.len)
  | .rename => fs.tmp w.id = some (.data w.id w.len)
  | _ => True

theorem local_step (f : Fault) {w : W} {fs : FS} (h : Local w fs) : Local (step f w fs).1 (step f w fs).2 := by
  rw [step_eq]
  cases hpc : w.pc <;> simp only [Local, hpc] at h <;> dsimp only
  case done => simp only [Local, hpc]
  case start => (repeat' split) <;> first | exact h | trivial
  case mkstemp =>
    split
    · trivial
    · by_cases hr : w.remaining = 0
      · simp [Local, hr, ← h]
      · simp [Local, hr, ← h]; omega
  case write =>
    split
    · trivial
    · have := f.left_le w.remaining
      by_cases hr : f.left w.remaining = 0
      · simp [Local, hr]
      · simp [Local, hr]; omega
  case close => by_cases hf : f = .error <;> simp [Local, hf, h]
  case compile => by_cases hf : f = .error <;> simp [Local, hf]
  all_goals (repeat' split) <;> trivial

theorem local_other (f : Fault) {w w' : W} {fs : FS} (hi : w'.id ≠ w.id) (h : Local w' fs) :
    Local w' (step f w fs).2 := by
  unfold Local at *
  rwa [step_tmp_other f fs hi]

/-- a writer that keeps to `Local` only ever renames its complete text into place -/
theorem dest_step {S : Content → Prop} (f : Fault) {w : W} {fs : FS} (habs : S .absent)
    (h : Local w fs) (hw : S (.data w.id w.len)) (hd : S fs.dest) : S (step f w fs).2.dest := by
  rcases step_dest f w fs with e | e | ⟨hpc, e⟩ <;> rw [e]
  · exact hd
  · exact habs
  · simp only [Local, hpc] at h
    rwa [h]

/-- two writers with different ids, each knowing its temp file, and a destination in `S`, a set
of contents that holds `absent` and the complete text of both -/
structure Inv2 (S : Content → Prop) (a b : W) (fs : FS) : Prop where
  abs : S .absent
  ne : a.id ≠ b.id
  la : Local a fs
  lb : Local b fs
  sa : S (.data a.id a.len)
  sb : S (.data b.id b.len)
  dest : S fs.dest

theorem Inv2.symm {S : Content → Prop} {a b : W} {fs : FS} (h : Inv2 S a b fs) : Inv2 S b a fs :=
  ⟨h.abs, h.ne.symm, h.lb, h.la, h.sb, h.sa, h.dest⟩

theorem Inv2.step {S : Content → Prop} {a b : W} {fs : FS} (h : Inv2 S a b fs) (f : Fault) :
    Inv2 S (step f a fs).1 b (step f a fs).2 := by
  obtain ⟨i1, -, i2⟩ := step_static f a fs
  exact ⟨h.abs, i1 ▸ h.ne, local_step f h.la, local_other f h.ne.symm h.lb,
    i1 ▸ i2 ▸ h.sa, h.sb, dest_step f h.abs h.la h.sa h.dest⟩

theorem inv2_runTwo {S : Content → Prop} (sched : List Bool) (fa fb : List Fault) {a b : W} {fs : FS}
    (h : Inv2 S a b fs) :
    Inv2 S (runTwo sched fa fb a b fs).1 (runTwo sched fa fb a b fs).2.1 (runTwo sched fa fb a b fs).2.2 := by
  fun_induction runTwo sched fa fb a b fs
  case case1 => exact h
  -- the writer picked has finished
  case case2 ih | case6 ih => exact ih h
  case case3 ih | case4 ih | case5 ih => exact ih (h.step _)
  case case7 ih | case8 ih | case9 ih => exact ih (h.symm.step _).symm

/-- **C13_two_writers**: two `putData` calls for the same module, interleaved at system-call
granularity under *any* schedule and *any* fault scripts: at every point (every schedule prefix is
a schedule) the destination is its previous content, absent (only ever through the removal after a
failed byte-compilation), or the **complete** text of one of the writers — never a partial or
mixed file. -/
theorem C13_two_writers (k0 k1 : Kind) (l0 l1 : Nat) (p0 p1 : Bool) (sched : List Bool)
    (fa fb : List Fault) (fs : FS) :
    let r := runTwo sched fa fb (mkW 0 k0 l0 p0) (mkW 1 k1 l1 p1) fs
    r.2.2.dest = fs.dest ∨ r.2.2.dest = .absent ∨ r.2.2.dest = .data 0 l0 ∨ r.2.2.dest = .data 1 l1 :=
  have h : Inv2 (fun c => c = fs.dest ∨ c = .absent ∨ c = .data 0 l0 ∨ c = .data 1 l1)
      (mkW 0 k0 l0 p0) (mkW 1 k1 l1 p1) fs :=
    ⟨.inr (.inl rfl), Nat.zero_ne_one, rfl, rfl, .inr (.inr (.inl rfl)), .inr (.inr (.inr rfl)), .inl rfl⟩
  (inv2_runTwo sched fa fb h).dest

/-- non-vacuity: an actual interleaving in which writer 1 wins the final rename -/
example : (runTwo [true, true, false, false, true, false, true, false, true, false] [] []
    (mkW 0 .file 5) (mkW 1 .file 7) fs0x).2.2.dest = .data 1 7 := by decide

/-! ### witness: the code before the fix renames a partial file into place -/

def fs0 : FS := { dirExists := true, dest := .old, tmp := fun _ => none }

/-- **Witness (F20)**: with a single `os.write` whose return value is ignored, a short write
of 3 of 10 bytes ends with a *partial* destination and a successful return. -/
theorem C13_short_write_witness :
    let w0 := mkW 0 .file 10
    let s1 := stepOld .none w0 fs0            -- start (directory exists)
    let s2 := stepOld .none s1.1 s1.2         -- mkstemp
    let s3 := stepOld (.short 2) s2.1 s2.2    -- write: 3 of 10 bytes
    let s4 := stepOld .none s3.1 s3.2         -- close
    let s5 := stepOld .none s4.1 s4.2         -- rename
    s5.1.pc = .done .ok ∧ s5.2.dest = .data 0 3 := by decide

/-- the repaired code on the same script stores all 10 bytes -/
example : (put .file 10 true false [.none, .short 2, .short 0, .none] fs0).1 = .ok ∧
    (put .file 10 true false [.none, .short 2, .short 0, .none] fs0).2.dest = .data 0 10 := by decide

/-- non-vacuity of the fault hypotheses: an error at `rename` after two short writes -/
example : AtMostOne [.none, .short 2, .short 0, .none, .none, .error] := by simp [AtMostOne, NoErr]
example : (put .py 10 true false [.none, .short 2, .short 0, .none, .none, .error] fs0).1 = .writerError := by
  decide

end Pysmi.Writer
