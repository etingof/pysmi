import Pysmi.Generated.Records
/-!
# C03 — which clause of a declaration feeds which key of its record

`Generated/Records.lean` is rewritten on every run from the Python AST of the parser and of the intermediate code
generator: for every declaration clause, the grammar symbol that sits at each position of the tuple the parser action
builds, the handler `handlersTable` gives for the clause tag, the names that handler unpacks from its data, and for each
key of the record (`outDict[...]`) the unpacked names it is computed from; for every grammar symbol the tag its action puts
in front of the value; for every tag what its handler returns.

The theorems below are decided by the kernel over those tables: for every declaration kind, `status`, `maxaccess`, `units`,
`description`, `reference`, `name`, `oid`, object lists, revisions … of the record are computed from the name unpacked at the
position where the parser put the clause of that meaning, the tag of that clause is handled by a handler that returns its
argument unchanged (or through the text filter, which C15 covers), and `class` is the constant of the declaration kind.
Together with C02 (the tree carries each clause argument as written) this is "class, status, access, units … match the
declaration"; what remains outside is Python's tuple unpacking and dict assignment themselves.
-/
namespace Pysmi.Records
open Pysmi.Generated.Records

/-- the grammar symbol (right-hand side of the clause's production) whose value record key `key` of clause `tag` is
computed from, when it is computed from exactly one unpacked name -/
def feeds (tag key : String) : Option String :=
  match clauses.find? (·.1 == tag) with
  | none => none
  | some (_, _, pos, unpack, keys) =>
    match keys.find? (·.1 == key) with
    | some (_, [v]) => (unpack.idxOf? v).bind (pos[·]?)
    | _ => none

def classOf (tag : String) : Option (List String) :=
  (clauses.find? (·.1 == tag)).bind fun c => (c.2.2.2.2.find? (·.1 == "class")).map (·.2)

def kindOf (tag : String) : Option String := (handlerKind.find? (·.1 == tag)).map (·.2.2)
def tagOf (sym : String) : Option (List String) := (tagsOf.find? (·.1 == sym)).map (·.2)

/-- every handler unpacks exactly as many names as the parser action puts values into the clause tuple -/
theorem C03_arity : clauses.all (fun c => c.2.2.1.length == c.2.2.2.1.length) = true := by decide +kernel

/-- **C03_record_class**: the `class` of a record is the constant of its declaration kind -/
theorem C03_record_class :
    [("agentCapabilitiesClause", "agentcapabilities"), ("moduleComplianceClause", "modulecompliance"),
     ("moduleIdentityClause", "moduleidentity"), ("notificationGroupClause", "notificationgroup"),
     ("notificationTypeClause", "notificationtype"), ("objectGroupClause", "objectgroup"),
     ("objectIdentityClause", "objectidentity"), ("objectTypeClause", "objecttype"), ("trapTypeClause", "notificationtype"),
     ("typeDeclaration", "type"), ("valueDeclaration", "objectidentity")].all
      (fun p => classOf p.1 == some ["const:" ++ p.2]) = true := by decide +kernel

/-- **C03_record_fields**: each key is computed from the clause of that meaning -/
theorem C03_record_fields :
    [ -- STATUS
      ("agentCapabilitiesClause", "status", "Status"), ("moduleComplianceClause", "status", "Status"),
      ("notificationGroupClause", "status", "Status"), ("notificationTypeClause", "status", "Status"),
      ("objectGroupClause", "status", "Status"), ("objectIdentityClause", "status", "Status"),
      ("objectTypeClause", "status", "Status"),
      -- MAX-ACCESS / ACCESS, UNITS, SYNTAX, DEFVAL, INDEX of an OBJECT-TYPE
      ("objectTypeClause", "maxaccess", "MaxOrPIBAccessPart"), ("objectTypeClause", "units", "UnitsPart"),
      ("objectTypeClause", "syntax", "Syntax"), ("objectTypeClause", "default", "DefValPart"),
      ("objectTypeClause", "indices", "MibIndex"),
      -- DESCRIPTION and REFERENCE
      ("agentCapabilitiesClause", "description", "(DESCRIPTION Text)"), ("moduleComplianceClause", "description", "(DESCRIPTION Text)"),
      ("moduleIdentityClause", "description", "(DESCRIPTION Text)"), ("notificationGroupClause", "description", "(DESCRIPTION Text)"),
      ("notificationTypeClause", "description", "(DESCRIPTION Text)"), ("objectGroupClause", "description", "(DESCRIPTION Text)"),
      ("objectIdentityClause", "description", "(DESCRIPTION Text)"), ("objectTypeClause", "description", "descriptionClause"),
      ("trapTypeClause", "description", "DescrPart"),
      ("agentCapabilitiesClause", "reference", "ReferPart"), ("moduleComplianceClause", "reference", "ReferPart"),
      ("notificationGroupClause", "reference", "ReferPart"), ("notificationTypeClause", "reference", "ReferPart"),
      ("objectGroupClause", "reference", "ReferPart"), ("objectIdentityClause", "reference", "ReferPart"),
      ("objectTypeClause", "reference", "ReferPart"), ("trapTypeClause", "reference", "ReferPart"),
      -- MODULE-IDENTITY
      ("moduleIdentityClause", "lastupdated", "(LAST_UPDATED ExtUTCTime)"), ("moduleIdentityClause", "organization", "(ORGANIZATION Text)"),
      ("moduleIdentityClause", "contactinfo", "(CONTACT_INFO Text)"), ("moduleIdentityClause", "revisions", "RevisionPart"),
      -- lists
      ("notificationGroupClause", "objects", "NotificationsPart"), ("notificationTypeClause", "objects", "NotificationObjectsPart"),
      ("objectGroupClause", "objects", "ObjectGroupObjectsPart"), ("trapTypeClause", "objects", "VarPart"),
      ("moduleComplianceClause", "modulecompliance", "ComplianceModulePart"),
      ("agentCapabilitiesClause", "productrelease", "(PRODUCT_RELEASE Text)"),
      -- the name and the OID value
      ("objectTypeClause", "name", "LOWERCASE_IDENTIFIER"), ("objectIdentityClause", "name", "LOWERCASE_IDENTIFIER"),
      ("moduleIdentityClause", "name", "LOWERCASE_IDENTIFIER"), ("objectGroupClause", "name", "LOWERCASE_IDENTIFIER"),
      ("notificationGroupClause", "name", "LOWERCASE_IDENTIFIER"), ("moduleComplianceClause", "name", "LOWERCASE_IDENTIFIER"),
      ("agentCapabilitiesClause", "name", "LOWERCASE_IDENTIFIER"), ("notificationTypeClause", "name", "fuzzy_lowercase_identifier"),
      ("trapTypeClause", "name", "fuzzy_lowercase_identifier"), ("valueDeclaration", "name", "fuzzy_lowercase_identifier"),
      ("typeDeclaration", "name", "typeName"),
      ("objectTypeClause", "oid", "ObjectName"), ("objectIdentityClause", "oid", "objectIdentifier"),
      ("moduleIdentityClause", "oid", "objectIdentifier"), ("objectGroupClause", "oid", "objectIdentifier"),
      ("notificationGroupClause", "oid", "objectIdentifier"), ("moduleComplianceClause", "oid", "objectIdentifier"),
      ("agentCapabilitiesClause", "oid", "objectIdentifier"), ("notificationTypeClause", "oid", "NotificationName"),
      ("valueDeclaration", "oid", "objectIdentifier")
    ].all (fun t => feeds t.1 t.2.1 == some t.2.2) = true := by decide +kernel

/-- **C03_clause_values**: the value of a STATUS / MAX-ACCESS / LAST-UPDATED / DISPLAY-HINT clause reaches the handler of the
declaration unchanged (the tag's handler returns its argument); UNITS, DESCRIPTION, REFERENCE, ORGANIZATION, CONTACT-INFO and
PRODUCT-RELEASE (since repair of the handler in /repo; it used to be handed on as written) go through the text filter and
nothing else.  A DISPLAY-HINT is a format, not prose: blanks in it are separators to be printed. -/
theorem C03_clause_values :
    (["Status", "MaxAccessPart", "LAST-UPDATED", "DISPLAY-HINT"].all (fun t => kindOf t == some "identity") &&
     ["UNITS", "DESCRIPTION", "REFERENCE", "ORGANIZATION", "CONTACT-INFO", "PRODUCT-RELEASE"].all (fun t => kindOf t == some "filtered")) = true := by
  decide +kernel

/-- the tags the parser puts in front of those values are the ones `handlersTable` dispatches on -/
theorem C03_clause_tags :
    ([("Status", ["Status"]), ("MaxAccessPart", ["MaxAccessPart"]), ("UnitsPart", ["=UNITS"]), ("ReferPart", ["=REFERENCE"]),
      ("descriptionClause", ["=DESCRIPTION"]), ("DescrPart", ["=DESCRIPTION"]), ("DefValPart", ["=DEFVAL"]), ("MibIndex", ["=INDEX"]),
      ("Revisions", ["Revisions"]), ("Objects", ["Objects"]), ("Notifications", ["Notifications"]), ("VarTypes", ["VarTypes"]),
      ("objectIdentifier", ["objectIdentifier"])].all (fun p => tagOf p.1 == some p.2)) = true := by decide +kernel

end Pysmi.Records
