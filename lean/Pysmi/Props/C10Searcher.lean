import Pysmi.Model.Searcher
/-!
# C10 (searchers) — "up to date" exactly when a transformed file for that exact module name
exists whose modification time is not older than the source's

-/
namespace Pysmi.Searcher

theorem scanFiles_fresh (look : String → Ent) (mtime : Int) (exts : List String) :
    scanFiles look mtime exts = .notModified ↔ ∃ sfx ∈ exts, ∃ t h, look sfx = .file t h ∧ t ≥ mtime := by
  induction exts with
  | nil => exact ⟨nofun, fun ⟨_, h, _⟩ => nomatch h⟩
  | cons sfx rest ih =>
    -- peel the head off the right-hand side, fold the tail back into the scan of `rest`
    simp only [scanFiles, List.mem_cons, exists_eq_or_imp, ← ih]
    cases look sfx with
    | file t h => by_cases ht : t ≥ mtime <;> simp [ht]
    | _ => simp

theorem scanFiles_ne_returns (look : String → Ent) (mtime : Int) (exts : List String) :
    scanFiles look mtime exts ≠ .returns := by
  fun_induction scanFiles look mtime exts <;> simp [*]

/-- **C10_anyfile_exact**: fresh ⇔ not rebuilding ∧ some configured extension names a *regular
file* at least as new as the source (equality counts; directories, other extensions never do). -/
theorem C10_anyfile_exact (exts : List String) (look : String → Ent) (mtime : Int) (rebuild : Bool) :
    anyFile exts look mtime rebuild = .notModified ↔
      rebuild = false ∧ ∃ sfx ∈ exts, ∃ t h, look sfx = .file t h ∧ t ≥ mtime := by
  cases rebuild
  · exact (scanFiles_fresh look mtime exts).trans ⟨fun h => ⟨rfl, h⟩, And.right⟩
  · exact ⟨nofun, fun h => nomatch h.1⟩

theorem scanPyc_fresh (look : String → Ent) (mtime : Int) (bc : List String) :
    scanPyc look mtime bc = true ↔ ∃ sfx ∈ bc, ∃ t p, look sfx = .file t (some p) ∧ p ≥ mtime := by
  induction bc with
  | nil => exact ⟨nofun, fun ⟨_, h, _⟩ => nomatch h⟩
  | cons sfx rest ih =>
    simp only [scanPyc, List.mem_cons, exists_eq_or_imp, ← ih]
    cases look sfx with
    | file t h =>
      cases h with
      | none => simp
      | some p => by_cases hp : p ≥ mtime <;> simp [hp, and_assoc]
    | _ => simp

/-- **C10_pyfile_exact**: the Python searcher answers "up to date" exactly when it is not rebuilding and either some
byte-code file carries a timestamp (behind the PEP 552 flags word; files with a foreign magic number, hash-based or
cut-off ones carry none) that is not older than the MIB, or some source-suffix file is a regular file not older than
the MIB - for every directory content, suffix lists and times.  An older file of either kind, a directory, a file
without a usable header never counts for or against. -/
theorem C10_pyfile_exact (bytecode source : List String) (look : String → Ent) (mtime : Int) (rebuild : Bool) :
    pyFile bytecode source look mtime rebuild = .notModified ↔
      rebuild = false ∧ ((∃ sfx ∈ bytecode, ∃ t p, look sfx = .file t (some p) ∧ p ≥ mtime) ∨
                         (∃ sfx ∈ source, ∃ t h, look sfx = .file t h ∧ t ≥ mtime)) := by
  cases rebuild
  · rw [← scanPyc_fresh, ← scanFiles_fresh, pyFile]
    cases scanPyc look mtime bytecode <;> simp
  · exact ⟨nofun, fun h => nomatch h.1⟩

/-- **C10_pyfile_exact_partial**: with no byte-code file that carries a timestamp, the source
suffixes alone decide. -/
theorem C10_pyfile_exact_partial (bytecode source : List String) (look : String → Ent) (mtime : Int)
    (rebuild : Bool) (hpyc : ∀ sfx ∈ bytecode, ∀ t h, look sfx = .file t h → h = none) :
    pyFile bytecode source look mtime rebuild = .notModified ↔
      rebuild = false ∧ ∃ sfx ∈ source, ∃ t h, look sfx = .file t h ∧ t ≥ mtime := by
  rw [C10_pyfile_exact, or_iff_right]
  rintro ⟨sfx, hm, t, p, hl, -⟩
  cases hpyc sfx hm t (some p) hl

/-- **C10_rebuild_files**: with `rebuild` the file searchers never answer "up to date" … -/
theorem C10_rebuild_files (exts bc src : List String) (look : String → Ent) (mtime : Int) :
    anyFile exts look mtime true = .returns ∧ pyFile bc src look mtime true = .returns := ⟨rfl, rfl⟩

/-- … while an explicit stub list is not overridden by `rebuild`, nor by any mtime. -/
theorem C10_stub (names : List String) (name : String) (mtime : Int) (rebuild : Bool) :
    stub names name mtime rebuild = .notModified ↔ name ∈ names := by
  by_cases h : name ∈ names <;> simp [stub, h]

/-- **C10_pyfile_pyc**: a byte-code file whose embedded timestamp is not older than the MIB answers "up to date",
wherever it stands among the byte-code suffixes and whatever else lies beside it. -/
theorem C10_pyfile_pyc (bytecode source : List String) (sfx : String) (look : String → Ent) (mtime t p : Int)
    (hm : sfx ∈ bytecode) (hl : look sfx = .file t (some p)) (hp : p ≥ mtime) :
    pyFile bytecode source look mtime false = .notModified :=
  (C10_pyfile_exact bytecode source look mtime false).mpr ⟨rfl, Or.inl ⟨sfx, hm, t, p, hl, hp⟩⟩

/-- **C10_stale_pyc_passed_over**: a byte-code file older than the MIB does not hide an up-to-date source file beside
it (before the repair of the loop it did: the searcher stopped at the first usable header). -/
theorem C10_stale_pyc_passed_over :
    pyFile [".pyc"] [".py"] (fun s => if s = ".pyc" then .file 100 (some 0) else if s = ".py" then .file 100 none else .absent)
      50 false = .notModified := by decide

example : pyFile [".pyc"] [".py"] (fun s => if s = ".py" then .file 50 none else .dir) 50 false = .notModified := by
  decide
example : pyFile [".pyc"] [".py"] (fun s => if s = ".pyc" then .file 100 (some 0) else .absent) 50 false = .notFound := by
  decide

end Pysmi.Searcher
