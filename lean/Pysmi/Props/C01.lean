import Pysmi.Model.Oid
import Pysmi.Lemmas.Except
/-!
# C01 — every symbol gets the OID the text defines (OID resolution)

`Denotes` is the specification, independent of the algorithm: the OID obtained by following
parent references down to numeric roots. The symbol tables are *maps* (module → name →
parts), so the order of declarations and of modules cannot matter by construction; what is
proved is that the recursive resolver computes exactly the denoted OID, for tables of any
size, any depth of parent chains, across any number of modules.
-/
namespace Pysmi.Oid

/-- `ps` denotes the numeric OID `o` in tables `T` -/
inductive Denotes (iso : Name) (T : Tables) : List Part → List Nat → Prop
  | nil : Denotes iso T [] []
  | num {k rest r} : Denotes iso T rest r → Denotes iso T (.num k :: rest) (k :: r)
  | iso {m rest r} : Denotes iso T rest r → Denotes iso T (.ref iso m :: rest) (1 :: r)
  | ref {n m parts a rest r} : n ≠ iso → T m n = some parts → Denotes iso T parts a → Denotes iso T rest r →
      Denotes iso T (.ref n m :: rest) (a ++ r)

/-- **C01_numericOid_sound**: whatever the resolver returns is the denoted OID. -/
theorem C01_numericOid_sound (iso : Name) (T : Tables) (fuel : Nat) (ps : List Part) (o : List Nat)
    (h : numericOid iso T fuel ps = .ok o) : Denotes iso T ps o := by
  fun_induction numericOid iso T fuel ps generalizing o with
  | case1 => cases h; exact .nil
  | case2 fuel k rest ih =>
    obtain ⟨r, hr, ⟨⟩⟩ := Except.bind_eq_ok.mp h
    exact .num (ih r hr)
  | case4 fuel m rest ih =>
    obtain ⟨r, hr, ⟨⟩⟩ := Except.bind_eq_ok.mp h
    exact .iso (ih r hr)
  | case6 fuel n m rest hn parts ht ih1 ih2 =>
    obtain ⟨a, ha, h⟩ := Except.bind_eq_ok.mp h
    obtain ⟨r, hr, ⟨⟩⟩ := Except.bind_eq_ok.mp h
    exact .ref hn ht (ih1 a ha) (ih2 r hr)
  | case3 | case5 => cases h

theorem numericOid_mono (iso : Name) (T : Tables) (fuel : Nat) (ps : List Part) (o : List Nat)
    (h : numericOid iso T fuel ps = .ok o) : ∀ fuel', fuel ≤ fuel' → numericOid iso T fuel' ps = .ok o := by
  fun_induction numericOid iso T fuel ps generalizing o with
  | case1 => intro _ _; rwa [numericOid]
  | case2 fuel k rest ih =>
    intro fuel' hle
    obtain ⟨r, hr, ho⟩ := Except.bind_eq_ok.mp h
    rw [numericOid, ih r hr fuel' hle]; exact ho
  | case4 fuel m rest ih =>
    intro fuel' hle
    obtain ⟨f, rfl⟩ := Nat.exists_eq_add_of_lt hle
    obtain ⟨r, hr, ho⟩ := Except.bind_eq_ok.mp h
    rw [numericOid, if_pos rfl, ih r hr _ hle]; exact ho
  | case6 fuel n m rest hn parts ht ih1 ih2 =>
    intro fuel' hle
    obtain ⟨f, rfl⟩ := Nat.exists_eq_add_of_lt hle
    obtain ⟨a, ha, h⟩ := Except.bind_eq_ok.mp h
    obtain ⟨r, hr, ho⟩ := Except.bind_eq_ok.mp h
    simp only [numericOid, if_neg hn, ht, ih1 a ha (fuel + f) (Nat.le_add_right ..), ih2 r hr _ hle]; exact ho
  | case3 | case5 => cases h

theorem denotes_iff {iso : Name} {T : Tables} {ps : List Part} {o : List Nat} :
    Denotes iso T ps o ↔ ∃ fuel, numericOid iso T fuel ps = .ok o := by
  refine ⟨fun h => ?_, fun ⟨fuel, h⟩ => C01_numericOid_sound iso T fuel ps o h⟩
  induction h with
  | nil => exact ⟨0, by simp [numericOid]⟩
  | num _ ih =>
    obtain ⟨f, hf⟩ := ih
    exact ⟨f, by simp only [numericOid, hf]; rfl⟩
  | iso _ ih =>
    obtain ⟨f, hf⟩ := ih
    exact ⟨f + 1, by simp only [numericOid, if_true, numericOid_mono iso T f _ _ hf (f + 1) (by omega)]; rfl⟩
  | @ref _ _ parts a rest r hne ht _ _ ih1 ih2 =>
    obtain ⟨f1, hf1⟩ := ih1
    obtain ⟨f2, hf2⟩ := ih2
    have h1 := numericOid_mono iso T f1 parts a hf1 (max f1 f2) (by omega)
    have h2 := numericOid_mono iso T f2 rest r hf2 (max f1 f2 + 1) (by omega)
    exact ⟨max f1 f2 + 1, by simp only [numericOid, hne, if_false, ht, h1, h2]; rfl⟩

/-- **C01_numericOid_complete**: every denoted OID is computed, given enough recursion depth (the
depth of the parent chain); from then on the answer is stable. So for tables without reference
cycles the resolver returns exactly the denoted OID. -/
theorem C01_numericOid_complete (iso : Name) (T : Tables) (ps : List Part) (o : List Nat)
    (h : Denotes iso T ps o) : ∃ fuel0, ∀ fuel, fuel0 ≤ fuel → numericOid iso T fuel ps = .ok o :=
  (denotes_iff.mp h).imp fun _ => numericOid_mono iso T _ ps o

/-- **C01_denotes_functional**: a symbol denotes at most one OID (the resolver computes each of them). -/
theorem C01_denotes_functional (iso : Name) (T : Tables) (ps : List Part) (o o' : List Nat)
    (h : Denotes iso T ps o) (h' : Denotes iso T ps o') : o = o' :=
  Except.ok_unique (C01_numericOid_complete iso T ps o h) (C01_numericOid_complete iso T ps o' h')

theorem denotes_append {iso : Name} {T : Tables} {a b : List Part} {oa ob : List Nat}
    (ha : Denotes iso T a oa) (hb : Denotes iso T b ob) : Denotes iso T (a ++ b) (oa ++ ob) := by
  induction ha with
  | nil => simpa using hb
  | num _ ih => exact .num ih
  | iso _ ih => exact .iso ih
  | ref hne ht h1 _ _ ih2 =>
    rw [List.append_assoc]
    exact .ref hne ht h1 ih2

theorem denotes_append_iff {iso : Name} {T : Tables} {a b : List Part} {o : List Nat} :
    Denotes iso T (a ++ b) o ↔ ∃ oa ob, o = oa ++ ob ∧ Denotes iso T a oa ∧ Denotes iso T b ob := by
  refine ⟨fun h => ?_, fun ⟨oa, ob, ho, ha, hb⟩ => ho ▸ denotes_append ha hb⟩
  induction a generalizing o with
  | nil => exact ⟨[], o, rfl, .nil, h⟩
  | cons p a ih =>
    cases h with
    | num h' =>
      obtain ⟨oa, ob, rfl, h1, h2⟩ := ih h'
      exact ⟨_ :: oa, ob, rfl, .num h1, h2⟩
    | iso h' =>
      obtain ⟨oa, ob, rfl, h1, h2⟩ := ih h'
      exact ⟨1 :: oa, ob, rfl, .iso h1, h2⟩
    | ref hne ht hp h' =>
      obtain ⟨oa, ob, rfl, h1, h2⟩ := ih h'
      exact ⟨_ ++ oa, ob, by rw [List.append_assoc], .ref hne ht hp h1, h2⟩

/-- **C01_spelling_named**: `name(number)` is read exactly like the bare number. -/
theorem C01_spelling_named (importMap : Name → Option Module) (self : Module) (n : Name) (k : Nat)
    (pre post : List SubId) :
    capture importMap self (pre ++ [.named n k] ++ post) = capture importMap self (pre ++ [.num k] ++ post) := by
  induction pre with
  | nil => simp [capture]
  | cons s pre ih => cases s <;> simpa [capture] using ih

/-- **C01_spelling_name_vs_number**: writing a parent by name, or writing out its own definition
(its parent followed by its arcs), denotes the same OID. -/
theorem C01_spelling_name_vs_number (iso : Name) (T : Tables) (q : Name) (m : Module) (parts rest : List Part)
    (o : List Nat) (hq : q ≠ iso) (ht : T m q = some parts) :
    Denotes iso T (.ref q m :: rest) o ↔ Denotes iso T (parts ++ rest) o := by
  rw [denotes_append_iff]
  constructor
  · intro h
    cases h with
    | iso _ => exact absurd rfl hq
    | ref _ ht' h1 h2 =>
      cases ht.symm.trans ht'
      exact ⟨_, _, rfl, h1, h2⟩
  · rintro ⟨oa, ob, rfl, h1, h2⟩
    exact .ref hq ht h1 h2

/-- **C01_import_attribution**: a parent name is looked up in the module it is imported from, else in
the current module. -/
theorem C01_import_attribution (importMap : Name → Option Module) (self : Module) (n : Name) :
    capture importMap self [.name n] = [.ref n (match importMap n with | some m => m | none => self)] := by
  cases h : importMap n <;> simp [capture, h]

/-- **C01_trap_oid**: a TRAP-TYPE with enterprise `e` and number `n` gets `e.0.n`. -/
theorem C01_trap_oid (e : List Nat) (n : Nat) : trapOid e n = e ++ [0] ++ [n] := by simp [trapOid]

/-! ### non-vacuity: a chain across two modules, declared "later" and imported -/
def exT : Tables := fun m n =>
  match m, n with
  | 0, 10 => some [.ref 1 0, .num 3]           -- org ::= { iso 3 }
  | 0, 11 => some [.ref 10 0, .num 6, .num 1]  -- internet ::= { org 6 1 }
  | 1, 20 => some [.ref 11 0, .num 4, .num 1]  -- module 1: enterprises ::= { internet 4 1 } (imported parent)
  | 1, 21 => some [.ref 22 1, .num 48]         -- forward reference inside module 1
  | 1, 22 => some [.ref 20 1, .num 4]
  | _, _ => none

example : numericOid 1 exT 10 [.ref 21 1] = .ok [1, 3, 6, 1, 4, 1, 4, 48] := by
  simp [numericOid, exT, bind, Except.bind, pure, Except.pure]
/-- a reference cycle exhausts any recursion depth (in the code: RecursionError) -/
example : numericOid 1 (fun _ _ => some [.ref 5 0]) 3 [.ref 5 0] = .error .fuel := by
  simp [numericOid, bind, Except.bind]

end Pysmi.Oid
