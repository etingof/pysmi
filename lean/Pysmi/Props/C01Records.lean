import Pysmi.Generated.Records
/-!
# C01 — the symbol pass reads the clause positions the parser writes

Same tables as `Props/C03Records.lean` (regenerated from the Python AST on every run), for `SymtableCodeGen`: the OID value
and the name a symbol is registered with come from the OID-value clause and the identifier of the declaration.
-/
namespace Pysmi.Records
open Pysmi.Generated.Records

def sfeeds (tag key : String) : Option String :=
  match symtableClauses.find? (·.1 == tag) with
  | none => none
  | some (_, _, pos, unpack, keys) =>
    match keys.find? (·.1 == key) with
    | some (_, [v]) => (unpack.idxOf? v).bind (pos[·]?)
    | _ => none

/-- both passes unpack as many names as the parser puts values, for every declaration kind -/
theorem C01_symtable_arity :
    (symtableClauses.all (fun c => c.2.2.1.length == c.2.2.2.1.length) &&
     symtableClauses.map (·.1) == clauses.map (·.1)) = true := by decide +kernel

/-- **C01_symtable_fields**: the OID value and the name a symbol is registered with come from the OID-value clause and the
identifier of the declaration; the SYNTAX and DEFVAL kept for later resolution from those clauses -/
theorem C01_symtable_fields :
    [("agentCapabilitiesClause", "oid", "objectIdentifier"), ("moduleComplianceClause", "oid", "objectIdentifier"),
     ("moduleIdentityClause", "oid", "objectIdentifier"), ("notificationGroupClause", "oid", "objectIdentifier"),
     ("notificationTypeClause", "oid", "NotificationName"), ("objectGroupClause", "oid", "objectIdentifier"),
     ("objectIdentityClause", "oid", "objectIdentifier"), ("objectTypeClause", "oid", "ObjectName"),
     ("valueDeclaration", "oid", "objectIdentifier"),
     ("objectTypeClause", "syntax", "Syntax"), ("objectTypeClause", "defval", "DefValPart"),
     ("typeDeclaration", "syntax", "typeDeclarationRHS"),
     ("objectTypeClause", "origName", "LOWERCASE_IDENTIFIER"), ("valueDeclaration", "origName", "fuzzy_lowercase_identifier"),
     ("typeDeclaration", "origName", "typeName"), ("notificationTypeClause", "origName", "fuzzy_lowercase_identifier"),
     ("trapTypeClause", "origName", "fuzzy_lowercase_identifier")
    ].all (fun t => sfeeds t.1 t.2.1 == some t.2.2) = true := by decide +kernel

end Pysmi.Records
