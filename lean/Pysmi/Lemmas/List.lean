namespace Pysmi

/-- a function whose values along a list are distinct is injective on the list -/
theorem eq_of_nodup_map {α β : Type} {f : α → β} {l : List α} (h : (l.map f).Nodup) {a b : α}
    (ha : a ∈ l) (hb : b ∈ l) (he : f a = f b) : a = b := by
  have hp : l.Pairwise fun a b => f a = f b → a = b := (List.pairwise_map.mp h).imp fun hne he => absurd he hne
  exact hp.forall_of_forall_of_flip (fun _ _ _ => rfl) (hp.imp fun h he => (h he.symm).symm) ha hb he

end Pysmi
