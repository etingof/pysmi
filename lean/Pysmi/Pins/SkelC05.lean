import Pysmi.Generated.Skeletons
/-!
# Pins (C05): the control skeletons the hand-written models and oracles were written against

`Generated/Skeletons.lean` is rewritten from the source on every run (calls other than logging, string plumbing and pure
builtins, raises with their exception class, returns, loops, branches, handlers - in source order; for the scripts also the
exit status of every `sys.exit`).  A structural change of one of these methods breaks its pin - which is not by itself a
violation: the check then searches model and code for a failing input and reports what it finds.
(Literals written by harness/tools/repin.py when the models were last brought in line with the source.)
-/
namespace Pysmi.Pins.SkelC05
open Pysmi.Generated.Skeletons

/-- IntermediateCodeGen.genDefVal (pysmi/codegen/intermediate.py) -/
theorem pin_genDefVal : genDefVal = [
    "if", "return:value", "if", "return:value", "call:self.getBaseType", "if", "call:outDict.update", "if",
    "call:self.isHex", "if", "call:outDict.update", "call:outDict.update", "if", "call:self.isBinary", "if",
    "call:outDict.update", "call:outDict.update", "if", "if", "return:value", "call:outDict.update",
    "call:self.transOpers", "if", "call:self._importMap.get", "call:self.genNumericOid", "call:outDict.update",
    "except:Exception", "raise:error.PySmiSemanticError", "call:error.PySmiSemanticError", "if", "if", "if",
    "call:outDict.update", "if", "call:outDict.update", "if", "loop", "call:bits.get", "if", "call:defvalBits.append",
    "raise:error.PySmiSemanticError", "call:error.PySmiSemanticError", "call:outDict.update", "call:self.genBits",
    "return:value", "raise:error.PySmiSemanticError", "call:error.PySmiSemanticError", "return:value"] := rfl

/-- IntermediateCodeGen.getBaseType (pysmi/codegen/intermediate.py) -/
theorem pin_getBaseType : getBaseType = [
    "if", "raise:error.PySmiSemanticError", "call:error.PySmiSemanticError", "if", "raise:error.PySmiSemanticError",
    "call:error.PySmiSemanticError", "if", "raise:error.PySmiSemanticError", "call:error.PySmiSemanticError",
    "call:self.symbolTable[module][symName].get", "if", "raise:error.PySmiSemanticError",
    "call:error.PySmiSemanticError", "if", "return:value", "call:self.getBaseType", "if", "if", "return:value"] := rfl

end Pysmi.Pins.SkelC05
