import Pysmi.Generated.Pysnmp
/-!
# C06 / C05 — the pysnmp template writes the lists of a record as they are

The intermediate generator hands the template ordered lists (INDEX items, OBJECTS / NOTIFICATIONS / VARIABLES, the groups
of a compliance statement, range and size alternatives, revisions).  The theorems of `Props/C06.lean` are about those lists;
what the template does with them is decided here on `templateInnerLoops`, the table of every inner `for` loop of the
template and the filters applied to what it runs over, regenerated from the template on every run:

* `C06_template_lists_unfiltered`: no loop over one of those lists applies any filter (no `sort`, `unique`, `reverse`,
  `batch`, slice …) — each element is written, in list order;
* `C06_template_lists_present`: each of those lists is in fact written by some loop (the statement above is not vacuous);
* `C06_template_filters_known`: the only filter used anywhere is `sort`, on the items / values of the two name→number
  dictionaries (enumerations, BITS), whose order carries no meaning.
-/
namespace Pysmi.Generated.Pysnmp

/-- the lists whose order and membership the properties speak about, as the template spells them -/
def orderedLists : List String :=
  ["definition['indices']", "definition['objects']", "definition['modulecompliance']", "spec['range']", "spec['size']",
   "definition.get('revisions', ())"]

theorem C06_template_lists_unfiltered : ∀ p ∈ templateInnerLoops, p.1 ∈ orderedLists → p.2 = "" := by decide +kernel

theorem C06_template_lists_present : ∀ l ∈ orderedLists, ∃ p ∈ templateInnerLoops, p.1 = l := by decide +kernel

theorem C06_template_filters_known : ∀ p ∈ templateInnerLoops, p.2 = "" ∨
    (p.2 = "sort" ∧ p.1 ∈ ["spec['enumeration'].values()", "spec['enumeration'].items()", "definition['syntax']['bits'].items()"]) := by
  decide +kernel

end Pysmi.Generated.Pysnmp
