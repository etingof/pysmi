import Pysmi.Model.Time
import Pysmi.Generated.Time
/-!
# C03 — revision data: `genTime`

The REVISION / LAST-UPDATED argument goes through `genTime` (Model/Time.lean: CPython's `strptime` regular expression
with its backtracking, the calendar check, glibc's `%Y`).  Proved for every date and time: a well-formed long stamp of
an existing date is rendered as that date; the short form is read as 19YY; any other text gives the dummy date or the
rendering of an existing date.  The field lemmas are decided by the kernel over the whole range of each field, the year's
over the ten digits.
-/
namespace Pysmi.Time

def dc (n : Nat) : Char := Char.ofNat (48 + n)
def pad4 (y : Nat) : Str := [dc (y / 1000), dc (y / 100 % 10), dc (y / 10 % 10), dc (y % 10)]

/-- `YYYYMMDDHHMMZ` -/
def stampLong (y mo d h mi : Nat) : Str := pad4 y ++ (pad2 mo ++ (pad2 d ++ (pad2 h ++ (pad2 mi ++ ['Z']))))
/-- `YYMMDDHHMMZ` -/
def stampShort (yy mo d h mi : Nat) : Str := pad2 yy ++ (pad2 mo ++ (pad2 d ++ (pad2 h ++ (pad2 mi ++ ['Z']))))

/-- the date exists and the time is a time of day -/
def Valid (y mo d h mi : Nat) : Prop := 1 ≤ y ∧ y ≤ 9999 ∧ 1 ≤ mo ∧ mo ≤ 12 ∧ 1 ≤ d ∧ d ≤ daysIn y mo ∧ h < 24 ∧ mi < 60

/-- an alternative no longer than `m` sees nothing of what follows `m` -/
theorem matchAlt_append {a : Alt} {m : Str} (rest : Str) (hl : a.length ≤ m.length) :
    matchAlt a (m ++ rest) = (matchAlt a m).map fun p => (p.1, p.2 ++ rest) := by
  induction a generalizing m with
  | nil => rfl
  | cons k ks ih =>
    cases m with
    | nil => cases hl
    | cons c cs =>
      simp only [matchAlt, List.cons_append]
      split
      · rw [ih (Nat.le_of_succ_le_succ hl), Option.map_map, Option.map_map]; rfl
      · rfl

/-- the first alternative that matches a prefix of `m` matches all of `m` (and none tried before it is longer than `m`) -/
def firstFull : List Alt → Str → Bool
  | [], _ => false
  | a :: as, m => decide (a.length ≤ m.length) &&
    match matchAlt a m with
    | some (x, r) => x == m && r == []
    | none => firstFull as m

theorem fields_step {alts : List Alt} {more : List (List Alt)} {m rest : Str} {ms : List Str} {r : Str}
    (hf : firstFull alts m = true) (hk : matchFields more rest = some (ms, r)) :
    matchFields (alts :: more) (m ++ rest) = some (m :: ms, r) := by
  unfold matchFields
  induction alts with
  | nil => cases hf
  | cons a as ih =>
    simp only [firstFull, Bool.and_eq_true, decide_eq_true_eq] at hf
    rw [List.findSome?_cons, matchAlt_append rest hf.1]
    cases hm : matchAlt a m with
    | none => rw [hm] at hf; exact ih hf.2
    | some p =>
      simp only [hm, Bool.and_eq_true, beq_iff_eq] at hf
      simp [hf.2.1, hf.2.2, hk]

def yAlts : List Alt := [[d09, d09, d09, d09]]
def mAlts : List Alt := [[.lit '1', .range '0' '2'], [.lit '0', .range '1' '9'], [.range '1' '9']]
def dAlts : List Alt := [[.lit '3', .range '0' '1'], [.range '1' '2', d09], [.lit '0', .range '1' '9'], [.range '1' '9'], [.lit ' ', .range '1' '9']]
def hAlts : List Alt := [[.lit '2', .range '0' '3'], [.range '0' '1', d09], [d09]]
def miAlts : List Alt := [[.range '0' '5', d09], [d09]]

theorem fields_eq : fields = [yAlts, mAlts, dAlts, hAlts, miAlts, [[.zed]]] := rfl

theorem dc_facts : ∀ k, k < 10 → d09.ok (dc k) = true ∧ dc k ≠ ' ' ∧ (dc k).toNat - 48 = k := by decide +kernel

theorem full_y (y : Nat) (h : y < 10000) : firstFull yAlts (pad4 y) = true ∧ toNat (pad4 y) = y := by
  obtain ⟨a1, a2, a3⟩ := dc_facts (y / 1000) (by omega)
  obtain ⟨b1, b2, b3⟩ := dc_facts (y / 100 % 10) (Nat.mod_lt _ (by decide))
  obtain ⟨c1, c2, c3⟩ := dc_facts (y / 10 % 10) (Nat.mod_lt _ (by decide))
  obtain ⟨d1, d2, d3⟩ := dc_facts (y % 10) (Nat.mod_lt _ (by decide))
  refine ⟨by simp [firstFull, yAlts, matchAlt, pad4, a1, b1, c1, d1], ?_⟩
  simp only [toNat, pad4, List.foldl, beq_iff_eq, a2, b2, c2, d2, a3, b3, c3, d3, if_false]
  -- Horner's rule puts the digits together again
  rw [Nat.mul_zero, Nat.zero_add, ← Nat.div_div_eq_div_mul y 100 10, Nat.div_add_mod, ← Nat.div_div_eq_div_mul y 10 10,
    Nat.div_add_mod, Nat.div_add_mod]

theorem full_m : ∀ n, n < 13 → 1 ≤ n → firstFull mAlts (pad2 n) = true ∧ toNat (pad2 n) = n := by decide +kernel
theorem full_d : ∀ n, n < 32 → 1 ≤ n → firstFull dAlts (pad2 n) = true ∧ toNat (pad2 n) = n := by decide +kernel
theorem full_h : ∀ n, n < 24 → firstFull hAlts (pad2 n) = true ∧ toNat (pad2 n) = n := by decide +kernel
theorem full_mi : ∀ n, n < 60 → firstFull miAlts (pad2 n) = true ∧ toNat (pad2 n) = n := by decide +kernel
theorem len_pad2 : ∀ n, n < 100 → (pad2 n).length = 2 := by decide +kernel
theorem short_is_long : ∀ yy, yy < 100 → '1' :: '9' :: pad2 yy = pad4 (1900 + yy) := by decide +kernel

theorem daysIn_le (y m : Nat) : daysIn y m ≤ 31 := by
  unfold daysIn; split
  · split <;> omega
  · split <;> omega

/-- a long stamp of an existing date has 13 characters and is read back as that date -/
theorem stampLong_spec {y mo d h mi : Nat} (hv : Valid y mo d h mi) :
    (stampLong y mo d h mi).length = 13 ∧ strptime (stampLong y mo d h mi) = some ⟨y, mo, d, h, mi⟩ := by
  obtain ⟨hy1, hy2, hm1, hm2, hd1, hd2, hh, hmi⟩ := hv
  have hd3 : d < 32 := by have := daysIn_le y mo; omega
  constructor
  · simp [stampLong, pad4, len_pad2 mo (by omega), len_pad2 d (by omega), len_pad2 h (by omega), len_pad2 mi (by omega)]
  have fy := full_y y (by omega)
  have fm := full_m mo (by omega) hm1
  have fd := full_d d hd3 hd1
  have fh := full_h h hh
  have fmi := full_mi mi hmi
  have e6 : matchFields [[[Cls.zed]]] ['Z'] = some ([['Z']], []) := by decide
  have e1 := fields_step fy.1 (fields_step fm.1 (fields_step fd.1 (fields_step fh.1 (fields_step fmi.1 e6))))
  unfold strptime stampLong
  rw [fields_eq, e1]
  simp [fy.2, fm.2, fd.2, fh.2, fmi.2, hy1, hd2]

/-- **C03_revision_long**: a well-formed `YYYYMMDDHHMMZ` stamp of an existing date comes out as that date and time -/
theorem C03_revision_long (y mo d h mi : Nat) (hv : Valid y mo d h mi) :
    genTime (stampLong y mo d h mi) = strftime ⟨y, mo, d, h, mi⟩ := by
  obtain ⟨hl, hp⟩ := stampLong_spec hv
  simp only [genTime, hl, show (13 : Nat) ≠ 11 by decide, if_false, hp]

/-- **C03_revision_short**: the short form `YYMMDDHHMMZ` denotes the year 19YY (RFC 2578) -/
theorem C03_revision_short (yy mo d h mi : Nat) (hyy : yy < 100) (hv : Valid (1900 + yy) mo d h mi) :
    genTime (stampShort yy mo d h mi) = strftime ⟨1900 + yy, mo, d, h, mi⟩ := by
  obtain ⟨hl, hp⟩ := stampLong_spec hv
  have e : '1' :: '9' :: stampShort yy mo d h mi = stampLong (1900 + yy) mo d h mi := by
    unfold stampShort stampLong
    rw [← short_is_long yy hyy]; rfl
  have hl' : (stampShort yy mo d h mi).length = 11 := by
    rw [← e, List.length_cons, List.length_cons] at hl; omega
  simp only [genTime, hl', if_true, e, hp]

theorem strptime_some {s : Str} {t : TM} (h : strptime s = some t) : 1 ≤ t.y ∧ t.d ≤ daysIn t.y t.mo := by
  unfold strptime at h
  split at h
  · simp only at h
    split at h
    · rename_i hc
      injection h with h
      simpa [← h] using hc
    · cases h
  · cases h

/-- whatever the text, the result is the dummy date or the rendering of an existing date the text was read as -/
theorem C03_revision_total (s : Str) :
    genTime s = dummy ∨ ∃ t : TM, 1 ≤ t.y ∧ t.d ≤ daysIn t.y t.mo ∧ genTime s = strftime t := by
  unfold genTime
  simp only
  cases h : strptime (if s.length = 11 then '1' :: '9' :: s else s) with
  | none => exact .inl rfl
  | some t => exact .inr ⟨t, (strptime_some h).1, (strptime_some h).2, rfl⟩

example : Valid 2004 2 29 23 59 := by unfold Valid; decide
example : String.ofList (genTime (stampLong 2004 2 29 23 59)) = "2004-02-29 23:59" := by decide +kernel
example : String.ofList (genTime (stampShort 3 3 15 0 0)) = "1903-03-15 00:00" := by decide +kernel
example : String.ofList (genTime "190002290000Z".toList) = "1970-01-01 00:00" := by decide +kernel

/-- the literals of `genTime` as the source has them now (regenerated on every run): the short length, the century
prefix, the parse and print formats and the dummy stamp are the ones the model is written for -/
theorem pin_genTime_source :
    Pysmi.Generated.Time.strings = ["19", "%Y-%m-%d %H:%M", "%Y%m%d%H%MZ", "197001010000Z", "%Y-%m-%d %H:%M", "%Y%m%d%H%MZ"] ∧
    Pysmi.Generated.Time.ints = [11] ∧
    Pysmi.Generated.Time.calls = ["len", "append", "strftime", "strptime", "append", "strftime", "strptime"] :=
  ⟨rfl, rfl, rfl⟩

/-- the dummy stamp of the source goes through the same two calls and gives the model's dummy date -/
theorem pin_dummy : genTime "197001010000Z".toList = dummy := by decide +kernel

end Pysmi.Time
