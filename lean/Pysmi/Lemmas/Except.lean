/-! decidable equality of `Except` values (for `decide` in witness theorems and examples), and what it takes for a
`do` block in `Except` to succeed -/
deriving instance DecidableEq for Except

namespace Except

theorem bind_eq_ok {ε α β : Type _} {x : Except ε α} {f : α → Except ε β} {b : β} :
    x >>= f = .ok b ↔ ∃ a, x = .ok a ∧ f a = .ok b := by
  cases x <;> simp [bind, Except.bind]

theorem pure_eq_ok {ε α : Type _} {a b : α} : (pure a : Except ε α) = .ok b ↔ a = b := by
  simp [pure, Except.pure]

/-- a fuelled function returns, from some fuel on, at most one value -/
theorem ok_unique {ε α : Type _} {f : Nat → Except ε α} {a b : α}
    (ha : ∃ n0, ∀ n, n0 ≤ n → f n = .ok a) (hb : ∃ n0, ∀ n, n0 ≤ n → f n = .ok b) : a = b := by
  obtain ⟨n, hn⟩ := ha
  obtain ⟨m, hm⟩ := hb
  exact ok.inj ((hn (max n m) (Nat.le_max_left ..)).symm.trans (hm (max n m) (Nat.le_max_right ..)))

end Except
