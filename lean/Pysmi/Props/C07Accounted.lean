import Pysmi.Props.C08Closure
import Pysmi.Props.C07
/-!
# C07 — every requested and every imported name ends with a status

`Acc s n` ("n is somewhere in the pipeline": parsed, generated, borrowed, or already has a status) is preserved by
every step of every phase; the working dictionaries are drained (`parsed` by phase 3, `borrowedM` by phase 5, `built`
by phase 6), so at the end only the status map is left to hold the name. With the closure theorem of C08 (every
requested / imported name is settled when discovery ends) and `FP` (every recorded failure has a status) this gives
`C07_accounted`.
-/
namespace Pysmi.Compile
open Pysmi

def Acc (s : St) (n : Name) : Prop :=
  s.parsed.contains n = true ∨ s.built.contains n = true ∨ s.borrowedM.contains n = true ∨ s.processed.contains n = true

/-- `Acc` only looks at what the dictionaries hold for `n` -/
theorem acc_of_view {s s' : St} {n : Name} (hv : s'.view n = s.view n) (h : Acc s n) : Acc s' n := by
  have e := View.mk.inj hv
  unfold Acc AList.contains at *
  rwa [e.1, e.2.1, e.2.2.1, e.2.2.2.2]

section
variable (c : Cfg) (req : List Name) (o : Opts) (s : St) (k : Name) {n : Name} (h : Acc s n)
include h

/-! A step for another name changes nothing (`*_view`); a step for `n` itself moves it from one dictionary to another,
or gives it its status. -/

theorem acc_needStep : Acc (needStep c o s k) n := by
  by_cases hk : k = n
  · subst hk
    rw [needStep_eq]
    split
    · exact h
    · unfold Acc; simp only; split
      · exact Or.inr (Or.inr (Or.inr AList.contains_set_self))
      · exact h
  · exact acc_of_view (needStep_view c o s hk) h

theorem acc_genStep : Acc (genStep c o s k) n := by
  by_cases hk : k = n
  · subst hk
    rw [genStep_eq]
    split
    · exact h
    · split
      · exact Or.inr (Or.inl AList.contains_set_self)
      · exact Or.inr (Or.inr (Or.inr AList.contains_set_self))
  · exact acc_of_view (genStep_view c o s hk) h

theorem acc_borrowStep : Acc (borrowStep c req o s k) n := by
  rw [borrowStep_eq]
  split
  · split
    · exact h.imp_right (Or.imp_right (Or.imp_left AList.contains_set_of))
    · exact h
  · exact h

theorem acc_needBorrowStep : Acc (needBorrowStep c req o s k) n := by
  by_cases hk : k = n
  · subst hk
    rw [needBorrowStep_eq]
    split
    · exact h
    · exact Or.inr (Or.inr (Or.inr AList.contains_set_self))
  · exact acc_of_view (needBorrowStep_view c req o s hk) h

theorem acc_storeStep : Acc (storeStep c o s k) n := by
  by_cases hk : k = n
  · subst hk
    rw [storeStep_eq]
    split
    · exact h
    · refine Or.inr (Or.inr (Or.inr ?_))
      simp only; split
      · split
        · assumption
        · exact AList.contains_set_self
      · exact AList.contains_set_self
  · exact acc_of_view (storeStep_view c o s hk) h

end

/-- at the gate nothing is left waiting to be generated or taken from a borrower -/
theorem gate_drained (c : Cfg) (req : List Name) (o : Opts) (s : St) :
    let g := phaseNeedBorrow c req o (phaseBorrow c req o (phaseGen c o (phaseNeed c o s)))
    g.parsed = [] ∧ g.borrowedM = [] := by
  refine ⟨?_, foldl_drains (·.borrowedM) (needBorrowStep_borrowedM c req o)⟩
  exact foldl_induction (P := fun s' : St => s'.parsed = []) (fun s k _ h => (needBorrowStep_parsed c req o s k).trans h)
    (foldl_induction (P := fun s' : St => s'.parsed = []) (fun s k _ h => (borrowStep_parsed c req o s k).trans h)
      (foldl_drains (·.parsed) (genStep_parsed c o)))

theorem acc_afterGate {c : Cfg} {o : Opts} {s : St} (hp : s.parsed = []) (hb : s.borrowedM = []) {n : Name} (h : Acc s n) :
    (afterGate c o s).processed.contains n = true := by
  unfold afterGate
  split
  · -- stopped at the gate: what is built is marked unprocessed, what has a status keeps one
    unfold Acc at h
    rw [hp, hb] at h
    simp only [markUnprocessed, AList.contains, AList.get?_foldl_set]
    split
    · rfl
    · rename_i hn
      rcases h with h | h | h | h
      · cases h
      · exact absurd ((AList.contains_iff_mem_keys _ _).mp h) hn
      · cases h
      · exact h
  · -- stored: the name is still somewhere, and everything but the status map is empty
    have hacc : Acc (phaseStore c o s) n := foldl_induction (fun s k _ => acc_storeStep c o s k) h
    have h1 : (phaseStore c o s).parsed = [] :=
      foldl_induction (P := fun s' : St => s'.parsed = []) (fun s k _ h => (storeStep_parsed c o s k).1.trans h) hp
    have h2 : (phaseStore c o s).borrowedM = [] :=
      foldl_induction (P := fun s' : St => s'.borrowedM = []) (fun s k _ h => (storeStep_parsed c o s k).2.trans h) hb
    have h3 : (phaseStore c o s).built = [] := foldl_drains (·.built) (storeStep_built c o)
    unfold Acc at hacc
    rw [h1, h2, h3] at hacc
    exact hacc.elim nofun (·.elim nofun (·.elim nofun id))

/-! #### every recorded failure has a status (during discovery) -/

structure FP (s : St) : Prop where
  nodup : s.failed.keys.Nodup
  status : ∀ x, s.failed.contains x = true → s.processed.contains x = true

theorem fp_discover {c : Cfg} {req : List Name} {fuel : Nat} {s s' : St} (h : FP s)
    (hd : discover c req fuel s = some s') : FP s' := by
  refine discover_inv (fun h => ⟨h.1, h.2⟩) (fun _ h => ⟨h.1, h.2⟩)
    (fun h => ?_) (fun {s n} h => ?_) (fun h => ⟨h.1, h.2⟩) (fun {s k} h => ?_) h hd
  · exact ⟨AList.nodup_keys_set h.nodup, fun x hx =>
      (AList.contains_set_iff ..).mpr (((AList.contains_set_iff ..).mp hx).imp_right (h.status x))⟩
  · refine ⟨?_, fun x hx => (AList.contains_setDefault_iff ..).mpr ((markMissing_failed.mp hx).imp_right (h.status x))⟩
    show (if s.failed.contains n then _ else _ : AList Name Unit).keys.Nodup
    split
    · exact h.nodup
    · exact AList.nodup_keys_set h.nodup
  · refine ⟨AList.nodup_keys_del h.nodup, fun x hx => ?_⟩
    by_cases hk : k = x
    · rw [hk, AList.contains_del_self h.nodup] at hx; cases hx
    · rw [AList.contains_del_ne hk] at hx ⊢
      exact h.status x hx

theorem acc_of_done {s : St} (h : FP s) {x : Name} (hd : Done s x) : Acc s x :=
  hd.elim Or.inl fun hd => Or.inr (Or.inr (Or.inr (h.status x hd)))

/-- **C07_accounted_from**: whatever is parsed, generated, borrowed or already has a status when discovery ends has a
status in the result - no phase loses a name, whichever way each component call turns out. -/
theorem C07_accounted_from (c : Cfg) (req : List Name) (o : Opts) (fuel : Nat) (s0 : St) (out : Out)
    (hd : discover c req fuel { queue := req } = some s0) (hr : run c req o fuel = some out)
    (n : Name) (h : Acc s0 n) : out.processed.contains n = true := by
  obtain ⟨_, _, hd', rfl, hout, -⟩ := run_out hr
  cases hd.symm.trans hd'
  obtain ⟨hp, hb⟩ := gate_drained c req o s0
  rw [hout]
  exact acc_afterGate hp hb
    (gate_induction (fun s k => acc_needStep c o s k) (fun s k => acc_genStep c o s k)
      (fun s k => acc_borrowStep c req o s k) (fun s k => acc_needBorrowStep c req o s k) h)

/-- **C07_accounted**: when every file holds the module it is named after, every requested name and every name in the
IMPORTS of every module that was parsed has a status in the returned map, for every import graph, every outcome of every
component call and every option set. (Together with `C07_one_status` - the keys of the map are distinct - this is
"exactly one status for each".) -/
theorem C07_accounted (c : Cfg) (hal : Aligned c) (req : List Name) (o : Opts) (fuel : Nat) (s0 : St) (out : Out)
    (hd : discover c req fuel { queue := req } = some s0) (hr : run c req o fuel = some out) :
    (∀ x ∈ req, out.processed.contains x = true) ∧
    (∀ e ∈ s0.parsed, ∀ x ∈ importsOf c e.2.2.2, out.processed.contains x = true) := by
  have hfp : FP s0 := fp_discover ⟨by simp, fun x hx => by cases hx⟩ hd
  obtain ⟨h1, h2⟩ := C08_closure c hal req fuel s0 hd
  exact ⟨fun x hx => C07_accounted_from c req o fuel s0 out hd hr x (acc_of_done hfp (h1 x hx)),
    fun e he x hx => C07_accounted_from c req o fuel s0 out hd hr x (acc_of_done hfp (h2 e he x hx))⟩

/-- non-vacuity: two modules importing each other plus a missing third; the hypotheses hold and all three get a status -/
def accCfg : Cfg where
  sources := [fun n => if n = 1 then .ok 1 0 10 else if n = 2 then .ok 2 0 20 else .notFound]
  parse := fun t => .trees [t]
  sym := fun t => if t = 10 then .ok 1 [2, 3] else if t = 20 then .ok 2 [1] else .error
  gen := fun t _ => .ok (t + 1)
  searchers := []
  borrowers := []
  put := fun _ _ _ => true

theorem accCfg_aligned : Aligned accCfg := by
  intro src hsrc n alias mtime text ts hs hp t ht name imps hy
  -- the file served for `1` holds the tree `10`, a module called `1`; that for `2` the tree `20`, a module called `2`
  cases List.mem_singleton.mp hsrc
  cases hp
  cases List.mem_singleton.mp ht
  simp only [accCfg] at hs hy
  split at hs
  · cases hs; cases hy; exact Eq.symm ‹_›
  · split at hs <;> cases hs
    cases hy; exact Eq.symm ‹_›

example : ((run accCfg [1] { ignoreErrors := true } 10).map fun out => out.processed.map fun e => (e.1, e.2.st)) =
    some [(3, .missing), (1, .compiled), (2, .compiled)] := by decide +kernel

end Pysmi.Compile
