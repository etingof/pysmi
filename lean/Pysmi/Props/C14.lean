import Pysmi.Model.Reader
/-!
# C14 — readers return the right file for a module name, incl. sub-directories and nested ZIPs

For every module name (ASCII), every setting of the matching switches, every extension
list, every directory tree (any depth: the model receives the visiting order) and every
archive nesting.
-/
namespace Pysmi.Reader

theorem find_spec {s p : Str} {k : Nat} (h : find s p = some k) : startsWith (s.drop k) p = true := by
  fun_induction find s p generalizing k with
  | case1 s hs => cases h; exact hs
  | case2 => cases h
  | case3 c rest _ ih =>
    obtain ⟨k', hk', rfl⟩ := Option.map_eq_some_iff.mp h
    exact ih hk'

/-- the three documented spellings of the requested name -/
def cands (name : Str) : List Str := [name, upper name, lower name]

/-- `b` is a documented variant of `name` (before the extension): as given / upper / lower case;
with fuzzy matching also with `-MIB` / `-mib` appended, or cut where (some spelling of) the name has
its `-mib` part. -/
def DocBase (fuzzy : Bool) (name b : Str) : Prop :=
  b ∈ cands name ∨
  (fuzzy = true ∧ (b = upper (name ++ dashMib) ∨ b = lower (name ++ dashMib) ∨
    ∃ c ∈ cands name, ∃ c' ∈ cands name, ∃ k, b = c.take k ∧ startsWith (c'.drop k) dashMib = true))

theorem spellings_subset {o : Opts} {name : Str} : spellings o name ⊆ cands name := by
  intro x hx
  simp only [spellings, List.mem_append, List.mem_ite_nil_right, List.mem_singleton] at hx
  rcases hx with (⟨_, rfl⟩ | ⟨_, rfl⟩) | ⟨_, rfl⟩ <;> simp [cands]

/-- The base names tried are the spellings switched on and, with fuzzy matching, each of them cut where the lower-case
name has its `-mib`, or the name with `-MIB` / `-mib` appended if it has none. -/
theorem mem_baseNames {o : Opts} {name : Str} {fs : List Str} (h : baseNames o name = some fs) {b : Str} :
    b ∈ fs ↔ b ∈ spellings o name ∨ o.fuzzy = true ∧
      ((∃ k, find (lower name) dashMib = some k ∧ ∃ c ∈ spellings o name, b = c.take k) ∨
       find (lower name) dashMib = none ∧ (b = upper (name ++ dashMib) ∨ b = lower (name ++ dashMib))) := by
  unfold baseNames at h
  cases hfz : o.fuzzy with
  | false => simp [hfz] at h; simp [← h]
  | true =>
    cases hf : find (lower name) dashMib with
    | none => simp [hfz, hf] at h; simp [← h]
    | some k => simp [hfz, hf] at h; simp [← h, eq_comm]

/-- **C14_variants_total**: for every setting of the switches the variant list exists (no IndexError: the state of
the code before repair 634cb10 with all three spellings off and fuzzy matching on). -/
theorem C14_variants_total (o : Opts) (name : Str) : (variants o name).isSome = true := by
  unfold variants baseNames
  simp only
  cases o.fuzzy <;> simp
  cases find (lower name) dashMib <;> simp

/-- **C14_variants_sound**: for every setting of the three matching switches and fuzzy on/off, every
file name the reader tries is a documented variant of the requested name plus a configured
extension — never an unrelated name — and its alias is that variant. -/
theorem C14_variants_sound (o : Opts) (name : Str) (vs : List (Str × Str)) (h : variants o name = some vs) :
    ∀ v ∈ vs, DocBase o.fuzzy name v.1 ∧ ∃ ext ∈ o.exts, v.2 = v.1 ++ ext := by
  obtain ⟨fs, hfs, rfl⟩ := Option.map_eq_some_iff.mp h
  intro v hv
  obtain ⟨b, hb, hv⟩ := List.mem_flatMap.mp hv
  obtain ⟨ext, hext, rfl⟩ := List.mem_map.mp hv
  refine ⟨?_, ext, hext, rfl⟩
  rcases (mem_baseNames hfs).mp hb with hb | ⟨hfz, ⟨k, hk, c, hc, rfl⟩ | ⟨_, hb⟩⟩
  · exact Or.inl (spellings_subset hb)
  · exact Or.inr ⟨hfz, Or.inr (Or.inr ⟨c, spellings_subset hc, lower name, by simp [cands], k, rfl, find_spec hk⟩)⟩
  · exact Or.inr ⟨hfz, hb.imp_right Or.inl⟩

/-- **C14_variants_complete_all** (every setting of the switches): every spelling that is switched on is tried with
every extension; with fuzzy matching, additionally the `-MIB` / `-mib` suffixed names when the lower-case name has
no `-mib`, and every switched-on spelling cut at that position when it has. -/
theorem C14_variants_complete_all (o : Opts) (name : Str) (vs : List (Str × Str)) (h : variants o name = some vs) :
      (∀ b ∈ spellings o name, ∀ ext ∈ o.exts, (b, b ++ ext) ∈ vs) ∧
      (o.fuzzy = true → find (lower name) dashMib = none →
        ∀ ext ∈ o.exts, (upper (name ++ dashMib), upper (name ++ dashMib) ++ ext) ∈ vs ∧
                        (lower (name ++ dashMib), lower (name ++ dashMib) ++ ext) ∈ vs) ∧
      (o.fuzzy = true → ∀ k, find (lower name) dashMib = some k →
        ∀ b ∈ spellings o name, ∀ ext ∈ o.exts, (b.take k, b.take k ++ ext) ∈ vs) := by
  obtain ⟨fs, hfs, rfl⟩ := Option.map_eq_some_iff.mp h
  -- `hb`: the right-hand side of `mem_baseNames`
  have tried {b ext} (hext : ext ∈ o.exts) hb : (b, b ++ ext) ∈ fs.flatMap fun x => o.exts.map fun y => (x, x ++ y) :=
    List.mem_flatMap.mpr ⟨b, (mem_baseNames hfs).mpr hb, List.mem_map.mpr ⟨ext, hext, rfl⟩⟩
  exact ⟨fun b hb ext hext => tried hext (.inl hb),
    fun hfz hf ext hext => ⟨tried hext (.inr ⟨hfz, .inr ⟨hf, .inl rfl⟩⟩), tried hext (.inr ⟨hfz, .inr ⟨hf, .inr rfl⟩⟩)⟩,
    fun hfz k hk b hb ext hext => tried hext (.inr ⟨hfz, .inl ⟨k, hk, b, hb, rfl⟩⟩)⟩

/-- **C14_variants_complete** (default switches: all three spellings on): every spelling with every
extension is tried; with fuzzy matching, additionally the `-MIB`/`-mib` suffixed names when the
lower-case name has no `-mib`, and the names cut at that position when it has. -/
theorem C14_variants_complete (fuzzy : Bool) (exts : List Str) (name : Str) (vs : List (Str × Str))
    (h : variants { fuzzy := fuzzy, exts := exts } name = some vs) :
      (∀ b ∈ cands name, ∀ ext ∈ exts, (b, b ++ ext) ∈ vs) ∧
      (fuzzy = true → find (lower name) dashMib = none →
        ∀ ext ∈ exts, (upper (name ++ dashMib), upper (name ++ dashMib) ++ ext) ∈ vs ∧
                      (lower (name ++ dashMib), lower (name ++ dashMib) ++ ext) ∈ vs) ∧
      (fuzzy = true → ∀ k, find (lower name) dashMib = some k →
        ∀ b ∈ cands name, ∀ ext ∈ exts, (b.take k, b.take k ++ ext) ∈ vs) :=
  -- with the default switches `spellings` unfolds to `cands`
  C14_variants_complete_all { fuzzy := fuzzy, exts := exts } name vs h

/-- with the default switches the variant list always exists -/
theorem C14_variants_default_total (fuzzy : Bool) (exts : List Str) (name : Str) :
    (variants { fuzzy := fuzzy, exts := exts } name).isSome = true :=
  C14_variants_total _ name

/-- **C14_index_precedence**: an `.index` entry for the name is the only file tried - the entry of the last line that
names the module, as in a dictionary built from the lines in file order. -/
theorem C14_index_precedence (o : Opts) (index : List (Str × Str)) (name file : Str)
    (h : indexLookup index name = some file) :
    fileVariants o index true name = some [(name, file)] := by
  simp [fileVariants, h]

/-- without an entry for the name the index plays no role -/
theorem C14_index_absent (o : Opts) (index : List (Str × Str)) (name : Str) (h : indexLookup index name = none) :
    fileVariants o index true name = variants o name := by
  simp [fileVariants, h]

/-- a dictionary built from the lines `a` and then `b`: what `b` says about a name replaces what `a` says -/
theorem indexLookup_append (a b : List (Str × Str)) (name : Str) :
    indexLookup (a ++ b) name = (indexLookup b name).or (indexLookup a name) := by
  simp [indexLookup, List.filter_append, List.getLast?_append, Option.map_or]

/-- **C14_index_last_wins**: a later line for the same module replaces an earlier one; lines for other modules change
nothing. -/
theorem C14_index_last_wins (index : List (Str × Str)) (name file : Str) :
    indexLookup (index ++ [(name, file)]) name = some file ∧
    (∀ other f', other ≠ name → indexLookup (index ++ [(other, f')]) name = indexLookup index name) := by
  constructor
  · rw [indexLookup_append]; simp [indexLookup]
  · intro other f' hne
    rw [indexLookup_append]; simp [indexLookup, hne]

theorem indexLine_short {fields : List Str} (h : fields.length < 2) : indexLine fields = none :=
  match fields, h with
  | [], _ => rfl
  | [_], _ => rfl

/-- **C14_index_short_lines**: a line of `.index` that does not hold two fields (blank, one word) contributes nothing,
wherever it stands. -/
theorem C14_index_short_lines (l1 l2 : List (List Str)) (short : List Str) (h : short.length < 2) :
    loadIndex (l1 ++ short :: l2) = loadIndex (l1 ++ l2) := by
  simp [loadIndex, List.filterMap_append, indexLine_short h]

example : indexLookup (loadIndex [["IF-MIB".toList, "a.txt".toList], [], ["lone".toList], ["IF-MIB".toList, "b.txt".toList, "x".toList]])
    "IF-MIB".toList = some "b.txt".toList := by decide +kernel

/-- the two nested loops of `FileReader.getData` as a search for the first hit -/
theorem dirLookup_eq_findSome? (dirs : List (Str → Option FileEnt)) (vs : List (Str × Str)) :
    dirLookup dirs vs = dirs.findSome? fun d => vs.findSome? fun v => (d v.2).map fun e => (v.1, v.2, e) := by
  induction dirs with
  | nil => rfl
  | cons d rest ih => rw [dirLookup, ih, List.findSome?_cons]; cases List.findSome? _ vs <;> rfl

/-- **C14_dir_lookup_sound**: what is returned is a regular file of some directory of the tree
whose name is one of the variants tried. -/
theorem C14_dir_lookup_sound (dirs : List (Str → Option FileEnt)) (vs : List (Str × Str))
    (a f : Str) (e : FileEnt) (h : dirLookup dirs vs = some (a, f, e)) :
    (a, f) ∈ vs ∧ ∃ d ∈ dirs, d f = some e := by
  rw [dirLookup_eq_findSome?] at h
  obtain ⟨d, hd, h⟩ := List.exists_of_findSome?_eq_some h
  obtain ⟨v, hv, h⟩ := List.exists_of_findSome?_eq_some h
  obtain ⟨e', he', heq⟩ := Option.map_eq_some_iff.mp h
  cases heq
  exact ⟨hv, d, hd, he'⟩

/-- **C14_dir_lookup_none**: not-found exactly when no directory holds any variant. -/
theorem C14_dir_lookup_none (dirs : List (Str → Option FileEnt)) (vs : List (Str × Str)) :
    dirLookup dirs vs = none ↔ ∀ d ∈ dirs, ∀ v ∈ vs, d v.2 = none := by
  simp only [dirLookup_eq_findSome?, List.findSome?_eq_none_iff, Option.map_eq_none_iff]

/-- **C14_never_truncated**: data is returned only for a file below the size limit — an oversized
file is an error, never a silently truncated text. -/
theorem C14_never_truncated (dirs : List (Str → Option FileEnt)) (vs : List (Str × Str)) (tooLarge : Nat → Bool)
    (a f : Str) (e : FileEnt) (h : fileGetData dirs vs tooLarge = .found a f e) :
    tooLarge e.content = false ∧ dirLookup dirs vs = some (a, f, e) := by
  unfold fileGetData at h
  split at h
  · cases h
  · rename_i hl
    split at h
    · cases h
    · rename_i hn
      cases h
      exact ⟨Bool.eq_false_iff.mpr hn, hl⟩

/-- **C14_zip_lookup_sound**: what is returned is a member-table entry filed under one of the
variants tried, with non-empty content. -/
theorem C14_zip_lookup_sound (members : List (Str × FileEnt)) (emp : Nat → Bool) (vs : List (Str × Str))
    (a f : Str) (e : FileEnt) (h : zipLookup members emp vs = some (a, f, e)) :
    (a, f) ∈ vs ∧ (f, e) ∈ members ∧ emp e.content = false := by
  obtain ⟨v, hv, h⟩ := List.exists_of_findSome?_eq_some h
  split at h
  · rename_i m hm
    split at h
    · cases h
    · rename_i hne
      cases h
      have hk : m.1 = v.2 := by simpa using List.find?_some hm
      exact ⟨hv, hk ▸ List.mem_of_find?_eq_some hm, Bool.eq_false_iff.mpr hne⟩
  · cases h

/-- every leaf file of an archive tree, at any nesting depth -/
def leaves : List Member → List (Str × FileEnt)
  | [] => []
  | .file p e :: rest => (p, e) :: leaves rest
  | .dirEntry _ :: rest => leaves rest
  | .zip _ inner :: rest => leaves inner ++ leaves rest

/-- a table key is the base name of a leaf, possibly followed by `+` signs -/
def KeyOf (k : Str) (p : Str) : Prop := ∃ n, k = basename p ++ List.replicate n '+'

def FromLeaves (ms : List Member) (tbl : List (Str × FileEnt)) : Prop :=
  ∀ ke ∈ tbl, ∃ p, (p, ke.2) ∈ leaves ms ∧ KeyOf ke.1 p

theorem plusFree_keyOf (acc : List (Str × FileEnt)) (k : Str) (fuel : Nat) :
    ∃ n, plusFree acc k fuel = k ++ List.replicate n '+' := by
  fun_induction plusFree acc k fuel
  case case1 => exact ⟨0, by simp⟩
  case case2 ih => obtain ⟨n, hn⟩ := ih; exact ⟨n + 1, by rw [hn, List.append_assoc]; rfl⟩
  case case3 => exact ⟨0, by simp⟩

theorem setKey_mem {tbl : List (Str × FileEnt)} {k : Str} {e : FileEnt} {x : Str × FileEnt}
    (h : x ∈ setKey tbl k e) : x = (k, e) ∨ x ∈ tbl := by
  unfold setKey at h
  split at h
  · obtain ⟨m, hm, rfl⟩ := List.mem_map.mp h
    split
    · exact Or.inl rfl
    · exact Or.inr hm
  · rcases List.mem_append.mp h with h | h
    · exact Or.inr h
    · exact Or.inl (List.mem_singleton.mp h)

theorem mergeInner_fromLeaves {all : List Member} {inner acc : List (Str × FileEnt)}
    (hin : FromLeaves all inner) (h : FromLeaves all acc) : FromLeaves all (mergeInner inner acc) := by
  induction inner generalizing acc with
  | nil => exact h
  | cons ke rest ih =>
    obtain ⟨k, e⟩ := ke
    rw [mergeInner]
    refine ih (fun ke hke => hin ke (List.mem_cons_of_mem _ hke)) fun ke hke => ?_
    rcases List.mem_append.mp hke with hke | hke
    · exact h ke hke
    · obtain rfl := List.mem_singleton.mp hke
      obtain ⟨p, hp, n, rfl⟩ := hin (k, e) List.mem_cons_self
      obtain ⟨m, hm⟩ := plusFree_keyOf acc (basename p ++ List.replicate n '+') (acc.length + 1)
      exact ⟨p, hp, n + m, by rw [hm, List.append_assoc, List.replicate_append_replicate]⟩

/-- **C14_zip_members**: every entry of the member table, for archives nested to any depth, is the
content and modification time of an actual leaf file of the archive tree, filed under that file's
base name (plus `+` signs that disambiguate equal base names in nested archives). `all` is the whole archive, `ms` the
part of it still to be read. -/
theorem C14_zip_members {all ms : List Member} {acc : List (Str × FileEnt)} (hsub : ∀ x ∈ leaves ms, x ∈ leaves all)
    (h : FromLeaves all acc) : FromLeaves all (buildMembers ms acc) := by
  fun_induction buildMembers ms acc
  all_goals simp only [leaves, List.forall_mem_cons, List.forall_mem_append] at hsub
  case case1 => exact h
  case case2 ih => exact ih hsub.2 h
  case case3 path e rest acc fn _ ih =>
    refine ih hsub.2 fun ke hke => ?_
    rcases setKey_mem hke with rfl | hke
    · exact ⟨path, hsub.1, 0, by simp [fn]⟩
    · exact h ke hke
  case case4 ih => exact ih hsub h
  case case5 ih => exact ih hsub.2 h
  case case6 ih1 ih2 => exact ih2 hsub.2 (mergeInner_fromLeaves (ih1 hsub.1 fun _ h => nomatch h) h)

/-- the member table of a whole archive (any nesting depth) only holds actual leaf files -/
theorem C14_zip_members_top (ms : List Member) : FromLeaves ms (buildMembers ms []) :=
  C14_zip_members (fun _ hx => hx) fun _ h => nomatch h

/-- a source without a scheme or with the scheme `zip` is an archive exactly when its path ends in `.zip` / `.ZIP` -/
theorem urlKind_archive {scheme : Str} (h : scheme = [] ∨ scheme = "zip".toList) (path : Str) :
    urlKind scheme path = if endsWith path ".zip".toList || endsWith path ".ZIP".toList then .zip else .file := by
  have hf : scheme ≠ "file".toList := by rcases h with rfl | rfl <;> decide
  unfold urlKind
  rw [if_pos (h.imp_right Or.inr)]
  simp only [ne_eq, hf, not_false_eq_true, true_and]

/-- **C14_url_kind**: the reader kind as a function of scheme and `.zip` extension. -/
theorem C14_url_kind (path : Str) :
    (urlKind "http".toList path = .http) ∧ (urlKind "https".toList path = .http) ∧
    (urlKind "ftp".toList path = .ftp) ∧ (urlKind "sftp".toList path = .ftp) ∧
    (urlKind "file".toList path = .file) ∧
    (urlKind [] path = if endsWith path ".zip".toList || endsWith path ".ZIP".toList then .zip else .file) ∧
    (urlKind "zip".toList path = if endsWith path ".zip".toList || endsWith path ".ZIP".toList then .zip else .file) := by
  refine ⟨?_, ?_, ?_, ?_, ?_, urlKind_archive (.inl rfl) path, urlKind_archive (.inr rfl) path⟩
  · simp only [urlKind]; rw [if_neg (by decide), if_pos (by decide)]
  · simp only [urlKind]; rw [if_neg (by decide), if_pos (by decide)]
  · simp only [urlKind]; rw [if_neg (by decide), if_neg (by decide), if_pos (by decide)]
  · simp only [urlKind]; rw [if_neg (by decide), if_neg (by decide), if_pos (by decide)]
  · simp only [urlKind]; rw [if_pos (by decide), if_neg (fun h => h.1 rfl)]

example : urlKind "gopher".toList "/x".toList = .unsupported := by decide +kernel

/-- **C14_url_target**: only the scheme `zip` lets the place of the host name the archive; then the reader is made for
host part and path taken together, and its kind is decided on that; for every other scheme the host part plays no role
in the path. -/
theorem C14_url_target (scheme netloc path : Str) :
    (scheme ≠ "zip".toList → urlTarget scheme netloc path = (urlKind scheme path, path)) ∧
    (netloc = [] → urlTarget scheme netloc path = (urlKind scheme path, path)) ∧
    (scheme = "zip".toList → netloc ≠ [] →
      urlTarget scheme netloc path = (urlKind "zip".toList (netloc ++ path), netloc ++ path)) := by
  unfold urlTarget urlPath
  exact ⟨fun h => by rw [if_neg (fun hh => h hh.1)], fun h => by rw [if_neg (fun hh => hh.2 h)],
    fun h1 h2 => by rw [if_pos ⟨h1, h2⟩, h1]⟩

/-- **C14_plain_path_whole**: a source given without a scheme is a local path and denotes itself - the reader is made for the
whole string (`getReadersFromUrls` hands the string over as it stands: nothing is cut off it at `#`, `?` or `;`, no `%`-escape
is resolved), and it is an archive reader exactly when the string ends in `.zip` / `.ZIP`. -/
theorem C14_plain_path_whole (netloc src : Str) :
    urlTarget [] netloc src =
      (if endsWith src ".zip".toList || endsWith src ".ZIP".toList then Kind.zip else Kind.file, src) := by
  rw [(C14_url_target [] netloc src).1 (by decide), urlKind_archive (.inl rfl)]

example : urlTarget [] [] "/tmp/mibs#2".toList = (.file, "/tmp/mibs#2".toList) := by decide +kernel
example : urlTarget [] [] "/data/a#b.zip".toList = (.zip, "/data/a#b.zip".toList) := by decide +kernel

/-- the example of the documentation -/
example : urlTarget "zip".toList "mymibs.zip".toList [] = (.zip, "mymibs.zip".toList) := by decide +kernel
example : urlTarget "file".toList "host".toList "/mibs".toList = (.file, "/mibs".toList) := by decide +kernel

/-! ### non-vacuity -/
example : (variants { exts := [[], ".txt".toList] } "IF-MIB".toList).map (·.map (fun v => String.ofList v.2)) =
    some ["IF-MIB", "IF-MIB.txt", "IF-MIB", "IF-MIB.txt", "if-mib", "if-mib.txt", "IF", "IF.txt", "IF", "IF.txt",
          "if", "if.txt"] := by decide +kernel

end Pysmi.Reader
