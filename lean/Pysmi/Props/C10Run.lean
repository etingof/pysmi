import Pysmi.Props.C10
import Pysmi.Lemmas.Store
/-!
# C10 — run level: an up-to-date module is untouched and never written

`C10_needStep` speaks about one step.  Here the whole run: a module that was parsed, has no failure recorded against its name
and that some configured searcher reports up to date ends with status `untouched` and is never handed to the writer -
the fact is established when the need-phase reaches the module (`Waiting` → `Settled`) and kept by every later step of every
phase (code generation, borrowing, the gate, storing), for every other module, answer and option.
-/
namespace Pysmi.Compile
open Pysmi

/-- `n` is settled as untouched: out of every working dictionary, status `untouched` -/
structure Settled (n : Name) (s : St) : Prop where
  parsed : s.parsed.get? n = none
  built : s.built.get? n = none
  borrowedM : s.borrowedM.get? n = none
  failed : s.failed.contains n = false
  status : s.processed.get? n = some { st := .untouched }
  noPut : ∀ x ∈ s.trace, ∀ d dr, x ≠ .put n d dr

/-- where `n` stands when the need-phase reaches it -/
structure Waiting (n alias : Name) (mtime : Int) (tree : Nat) (s : St) : Prop where
  parsed : s.parsed.get? n = some (alias, mtime, tree)
  built : s.built.get? n = none
  borrowedM : s.borrowedM.get? n = none
  failed : s.failed.contains n = false
  noPut : ∀ x ∈ s.trace, ∀ d dr, x ≠ .put n d dr
  nodup : s.parsed.keys.Nodup

/-- a call that does not hand `n` to the writer -/
def Call.Spares (n : Name) (x : Call) : Prop := ∀ d dr, x ≠ .put n d dr

theorem spares_of_noPut {n : Name} {x : Call} (h : x.isPut = false) : x.Spares n :=
  fun d dr e => by rw [e] at h; cases h

theorem spares_of_late {n : Name} {s s' : St} (h : Adds Call.Late s s') : Adds (Call.Spares n) s s' :=
  h.mono fun _ h => spares_of_noPut h.2

/-- `Settled n` only looks at what the dictionaries hold for `n` and at the hand-overs of `n` -/
theorem Settled.step {n : Name} {s s' : St} (h : Settled n s) (hv : s'.view n = s.view n) (hq : Adds (Call.Spares n) s s') :
    Settled n s' := by
  have e := View.mk.inj hv
  exact ⟨e.1.trans h.parsed, e.2.1.trans h.built, e.2.2.1.trans h.borrowedM, e.2.2.2.1.trans h.failed,
    e.2.2.2.2.trans h.status, hq.all h.noPut⟩

section
variable (c : Cfg) (req : List Name) (o : Opts) (s : St) (k : Name) {n : Name} (h : Settled n s)
include h

/-! a step for another name leaves `n` alone; a step for `n` finds nothing to work on -/

theorem settled_needStep : Settled n (needStep c o s k) := by
  by_cases hk : k = n
  · rwa [hk, needStep_eq, h.parsed]
  · exact h.step (needStep_view c o s hk) (spares_of_late (needStep_trace c o s k))

theorem settled_genStep : Settled n (genStep c o s k) := by
  by_cases hk : k = n
  · rwa [hk, genStep_eq, h.parsed]
  · exact h.step (genStep_view c o s hk) (spares_of_late (genStep_trace c o s k))

theorem settled_borrowStep (hk : k ≠ n) : Settled n (borrowStep c req o s k) :=
  h.step (borrowStep_view c req o s hk) (spares_of_late (borrowStep_trace c req o s k))

theorem settled_needBorrowStep : Settled n (needBorrowStep c req o s k) := by
  by_cases hk : k = n
  · rwa [hk, needBorrowStep_eq, h.borrowedM]
  · exact h.step (needBorrowStep_view c req o s hk) (spares_of_late (needBorrowStep_trace c req o s k))

theorem settled_storeStep : Settled n (storeStep c o s k) := by
  by_cases hk : k = n
  · rwa [hk, storeStep_eq, h.built]
  · exact h.step (storeStep_view c o s hk)
      ((storeStep_trace c o s k).mono fun x ⟨_, _, hx⟩ d dr e => hk (by injection hx.symm.trans e))

end

theorem settled_markUnprocessed {n : Name} (s : St) (h : Settled n s) : Settled n (markUnprocessed s) := by
  refine ⟨h.parsed, h.built, h.borrowedM, h.failed, ?_, h.noPut⟩
  simp only [markUnprocessed, AList.get?_foldl_set, (AList.get?_eq_none_iff _ _).mp h.built, if_false]
  exact h.status

theorem waiting_needStep_ne {c : Cfg} {o : Opts} {s : St} {k n alias : Name} {mtime : Int} {tree : Nat} (hk : k ≠ n)
    (h : Waiting n alias mtime tree s) : Waiting n alias mtime tree (needStep c o s k) := by
  have e := View.mk.inj (needStep_view c o s hk)
  refine ⟨e.1.trans h.parsed, e.2.1.trans h.built, e.2.2.1.trans h.borrowedM, e.2.2.2.1.trans h.failed,
    (spares_of_late (needStep_trace c o s k)).all h.noPut, ?_⟩
  rw [needStep_eq]
  split
  · exact h.nodup
  · simp only; split
    · exact AList.nodup_keys_del h.nodup
    · exact h.nodup

theorem settled_needStep_self {c : Cfg} {o : Opts} {s : St} {n alias : Name} {mtime : Int} {tree : Nat}
    (h : Waiting n alias mtime tree s) (hd : needDrops c o s n mtime = true) : Settled n (needStep c o s n) := by
  have hq := (spares_of_late (n := n) (needStep_trace c o s n)).all h.noPut
  simp only [needStep_eq, h.parsed, hd, if_true] at hq ⊢
  exact ⟨AList.get?_del_self h.nodup, h.built, h.borrowedM, h.failed, AList.get?_set_eq, hq⟩

theorem settled_phaseNeed_of_drops {c : Cfg} {o : Opts} {n alias : Name} {mtime : Int} {tree : Nat} {l : List Name} {s : St}
    (h : Settled n s ∨ ((Waiting n alias mtime tree s ∧ needDrops c o s n mtime = true) ∧ n ∈ l)) :
    Settled n (l.foldl (needStep c o) s) :=
  foldl_reaches (B := fun s => Waiting n alias mtime tree s ∧ needDrops c o s n mtime = true)
    (fun s k => settled_needStep c o s k)
    (fun _ _ hk h => ⟨waiting_needStep_ne hk h.1, needDrops_needStep.trans h.2⟩)
    (fun _ h => settled_needStep_self h.1 h.2) h

theorem settled_phaseNeed (c : Cfg) (o : Opts) (n alias : Name) (mtime : Int) (tree : Nat)
    (hfresh : ∃ sr ∈ c.searchers, sr n mtime o.rebuild = .notModified) :
    ∀ (l : List Name) (s : St), (Settled n s ∨ (Waiting n alias mtime tree s ∧ n ∈ l)) → Settled n (l.foldl (needStep c o) s) :=
  fun _ _ h => settled_phaseNeed_of_drops (h.imp_right fun ⟨w, hm⟩ =>
    ⟨⟨w, needDrops_iff.mpr (.inl hfresh)⟩, hm⟩)

/-- discovery neither builds nor borrows, and keeps one record per parsed module -/
structure DI (s : St) : Prop where
  built : s.built = []
  borrowedM : s.borrowedM = []
  nodup : s.parsed.keys.Nodup

theorem di_discover (c : Cfg) (req : List Name) (fuel : Nat) (s s' : St) (h : DI s) (hd : discover c req fuel s = some s') : DI s' :=
  discover_inv (fun h => ⟨h.1, h.2, h.3⟩) (fun _ h => ⟨h.1, h.2, h.3⟩) (fun h => ⟨h.1, h.2, h.3⟩)
    (fun h => ⟨h.1, h.2, h.3⟩) (fun h => ⟨h.1, h.2, AList.nodup_keys_set h.3⟩)
    (fun h => ⟨h.1, h.2, h.3⟩) h hd

/-- a module that was parsed, has no failure recorded against its name, and that phase 2 drops - a searcher reports it up
to date, or `noDeps` excludes it - ends `untouched`, and the writer is never called for it -/
theorem C10_dropped_untouched {c : Cfg} {req : List Name} {o : Opts} {fuel : Nat} {s0 : St} {out : Out}
    (hd : discover c req fuel { queue := req } = some s0) (hr : run c req o fuel = some out)
    {n alias : Name} {mtime : Int} {tree : Nat} (hp : s0.parsed.get? n = some (alias, mtime, tree))
    (hnf : s0.failed.contains n = false) (hdrop : needDrops c o s0 n mtime = true) :
    out.processed.get? n = some { st := .untouched } ∧ ∀ x ∈ out.trace, ∀ d dr, x ≠ .put n d dr := by
  have hdi := di_discover c req fuel _ s0 ⟨rfl, rfl, by simp⟩ hd
  have hinv : Inv s0 := inv_discover (inv_init req) hd
  have hw : Waiting n alias mtime tree s0 :=
    ⟨hp, by rw [hdi.built]; rfl, by rw [hdi.borrowedM]; rfl, hnf, fun x hx => spares_of_noPut (hinv.noPut x hx), hdi.nodup⟩
  have h1 : Settled n (phaseNeed c o s0) :=
    settled_phaseNeed_of_drops (Or.inr ⟨⟨hw, hdrop⟩, AList.mem_keys_of_get? hp⟩)
  have h2 : Settled n (phaseGen c o (phaseNeed c o s0)) := foldl_induction (fun s k _ => settled_genStep c o s k) h1
  -- the borrowing loop runs over the names that are failed when it starts; `n` is not among them
  have hn : n ∉ (phaseGen c o (phaseNeed c o s0)).failed.keys := fun hm =>
    Bool.false_ne_true (h2.failed.symm.trans ((AList.contains_iff_mem_keys _ _).mpr hm))
  have h4 : Settled n (phaseNeedBorrow c req o (phaseBorrow c req o (phaseGen c o (phaseNeed c o s0)))) :=
    foldl_induction (fun s k _ => settled_needBorrowStep c req o s k)
      (foldl_induction (fun s k hk h => settled_borrowStep c req o s k h (fun e : k = n => hn (e ▸ hk))) h2)
  obtain ⟨_, _, hd', rfl, hproc, htrace⟩ := run_out hr
  cases hd.symm.trans hd'
  have h5 := afterGate_induction settled_markUnprocessed (fun s k => settled_storeStep c o s k) h4
  exact ⟨hproc ▸ h5.status, htrace ▸ h5.noPut⟩

/-- **C10_fresh_untouched**: a module that was parsed, has no failure recorded against its name, and that some searcher
reports up to date (answers are asked with the source's modification time and the rebuild option) ends `untouched`, and
the writer is never called for it - whatever the rest of the request, the other searchers' answers, borrowers and options. -/
theorem C10_fresh_untouched (c : Cfg) (req : List Name) (o : Opts) (fuel : Nat) (s0 : St) (out : Out)
    (hd : discover c req fuel { queue := req } = some s0) (hr : run c req o fuel = some out)
    (n alias : Name) (mtime : Int) (tree : Nat) (hp : s0.parsed.get? n = some (alias, mtime, tree))
    (hnf : s0.failed.contains n = false)
    (hfresh : ∃ sr ∈ c.searchers, sr n mtime o.rebuild = .notModified) :
    out.processed.get? n = some { st := .untouched } ∧ ∀ x ∈ out.trace, ∀ d dr, x ≠ .put n d dr :=
  C10_dropped_untouched hd hr hp hnf (needDrops_iff.mpr (.inl hfresh))

/-- non-vacuity: two modules, a searcher that knows module 2 is up to date -/
def freshCfg : Cfg where
  sources := [fun n => if n = 1 then .ok 1 5 10 else if n = 2 then .ok 2 7 20 else .notFound]
  parse := fun t => .trees [t]
  sym := fun t => if t = 10 then .ok 1 [2] else if t = 20 then .ok 2 [] else .error
  gen := fun t _ => .ok (t + 1)
  searchers := [fun n mt _ => if n = 2 ∧ mt = 7 then .notModified else .notFound]
  borrowers := []
  put := fun _ _ _ => true

example : ((run freshCfg [1] {} 10).map fun out => (out.processed.map fun e => (e.1, e.2.st), out.trace.filter Call.isPut)) =
    some ([(2, .untouched), (1, .compiled)], [.put 1 11 false]) := by decide +kernel

end Pysmi.Compile
