import Pysmi.Model.Py
/-!
Lemmas about the insertion-ordered dict model.  `set` and `del` are described once through what `get?` and `keys`
see of them (`get?_set`, `get?_del_ne`, `keys_set`, `keys_del`); what is said of `contains`, of membership in `keys` and of
distinct keys follows from those four and `get?_eq_none_iff` without going back to the recursion (the facts about
entries, at the end, do go back to it).
-/
namespace Pysmi.AList
variable {κ ν : Type} [DecidableEq κ]

@[simp] theorem keys_nil : keys ([] : AList κ ν) = [] := rfl
@[simp] theorem keys_cons (k : κ) (v : ν) (d : AList κ ν) : keys ((k, v) :: d) = k :: keys d := rfl

theorem get?_set (d : AList κ ν) (k k0 : κ) (v : ν) :
    (d.set k v).get? k0 = if k = k0 then some v else d.get? k0 := by
  induction d with
  | nil => simp [set, get?]
  | cons e rest ih =>
    obtain ⟨k', v'⟩ := e
    by_cases hk : k' = k
    · subst hk; by_cases h0 : k' = k0 <;> simp [set, get?, h0]
    · by_cases h0 : k' = k0
      · subst h0; simp [set, get?, hk, Ne.symm hk]
      · simp [set, get?, hk, h0, ih]

theorem get?_set_eq {d : AList κ ν} {k : κ} {v : ν} : (d.set k v).get? k = some v := by
  simp [get?_set]

theorem get?_set_ne {d : AList κ ν} {k k0 : κ} {v : ν} (h : k ≠ k0) : (d.set k v).get? k0 = d.get? k0 := by
  simp [get?_set, h]

theorem get?_del_ne {d : AList κ ν} {k k0 : κ} (h : k ≠ k0) : (d.del k).get? k0 = d.get? k0 := by
  induction d with
  | nil => rfl
  | cons e rest ih =>
    obtain ⟨k', v'⟩ := e
    by_cases hk : k' = k <;> by_cases h0 : k' = k0 <;> simp_all [del, get?]

theorem get?_eq_none_iff (d : AList κ ν) (k : κ) : d.get? k = none ↔ k ∉ d.keys := by
  induction d with
  | nil => simp [get?]
  | cons e rest ih =>
    obtain ⟨k', v'⟩ := e
    by_cases hk : k' = k <;> simp_all [get?, eq_comm]

theorem mem_keys_of_get? {d : AList κ ν} {k : κ} {v : ν} (h : d.get? k = some v) : k ∈ d.keys :=
  Decidable.not_not.mp fun hne => by rw [(get?_eq_none_iff d k).mpr hne] at h; cases h

/-- Python's `d[k] = v`: an existing key keeps its place, a new one goes to the end -/
theorem keys_set (d : AList κ ν) (k : κ) (v : ν) : (d.set k v).keys = if k ∈ d.keys then d.keys else d.keys ++ [k] := by
  induction d with
  | nil => simp [set]
  | cons e rest ih =>
    obtain ⟨k', v'⟩ := e
    by_cases hk : k' = k
    · simp [set, hk]
    · have hk' : k ≠ k' := fun h => hk h.symm
      simp only [set, hk, if_false, keys_cons, ih, List.mem_cons, hk', false_or]
      split <;> rfl

theorem keys_del (d : AList κ ν) (k : κ) : (d.del k).keys = d.keys.erase k := by
  induction d with
  | nil => rfl
  | cons e rest ih =>
    obtain ⟨k', v'⟩ := e
    by_cases hk : k' = k <;> simp [del, hk, ih]

theorem mem_keys_set (d : AList κ ν) (k x : κ) (v : ν) : x ∈ (d.set k v).keys ↔ x = k ∨ x ∈ d.keys := by
  rw [keys_set]
  split
  · exact ⟨Or.inr, fun h => h.elim (· ▸ ‹_›) id⟩
  · simp [or_comm]

theorem nodup_keys_set {d : AList κ ν} {k : κ} {v : ν} (h : d.keys.Nodup) : (d.set k v).keys.Nodup := by
  rw [keys_set]
  split
  · exact h
  · rename_i hk
    exact List.nodup_append.mpr ⟨h, by simp, fun a ha b hb => by simp at hb; exact hb ▸ fun e => hk (e ▸ ha)⟩

theorem mem_keys_del {d : AList κ ν} {k x : κ} (h : x ∈ (d.del k).keys) : x ∈ d.keys :=
  List.mem_of_mem_erase (keys_del d k ▸ h)

theorem nodup_keys_del {d : AList κ ν} {k : κ} (h : d.keys.Nodup) : (d.del k).keys.Nodup :=
  keys_del d k ▸ h.erase k

theorem get?_del_self {d : AList κ ν} {k : κ} (h : d.keys.Nodup) : (d.del k).get? k = none :=
  (get?_eq_none_iff _ _).mpr (keys_del d k ▸ h.not_mem_erase)

theorem get?_foldl_set (ks : List κ) (v : ν) (d : AList κ ν) (n : κ) :
    (ks.foldl (fun d k => d.set k v) d).get? n = if n ∈ ks then some v else d.get? n := by
  induction ks generalizing d with
  | nil => rfl
  | cons k ks ih =>
    rw [List.foldl_cons, ih, get?_set]
    by_cases h1 : n ∈ ks <;> by_cases h2 : k = n <;> simp [h1, h2, Ne.symm]

theorem contains_iff_mem_keys (d : AList κ ν) (k : κ) : d.contains k = true ↔ k ∈ d.keys := by
  rw [← Decidable.not_iff_not, ← get?_eq_none_iff]
  cases h : d.get? k <;> simp [contains, h]

theorem contains_set_iff (d : AList κ ν) (k x : κ) (v : ν) : (d.set k v).contains x = true ↔ k = x ∨ d.contains x = true := by
  by_cases h : k = x <;> simp [contains, get?_set, h]

theorem contains_set_self {d : AList κ ν} {k : κ} {v : ν} : (d.set k v).contains k = true :=
  (contains_set_iff d k k v).mpr (.inl rfl)

theorem contains_set_of {d : AList κ ν} {k x : κ} {v : ν} (h : d.contains x = true) : (d.set k v).contains x = true :=
  (contains_set_iff d k x v).mpr (.inr h)

theorem contains_set_ne {d : AList κ ν} {k x : κ} {v : ν} (h : k ≠ x) : (d.set k v).contains x = d.contains x := by
  simp [contains, get?_set_ne h]

/-- Python's `if k not in d: d[k] = v` -/
theorem contains_setDefault_iff (d : AList κ ν) (k x : κ) (v : ν) :
    (if d.contains k then d else d.set k v).contains x = true ↔ k = x ∨ d.contains x = true := by
  split
  · exact ⟨.inr, fun h => h.elim (· ▸ ‹_›) id⟩
  · exact contains_set_iff d k x v

theorem contains_del_ne {d : AList κ ν} {k x : κ} (h : k ≠ x) : (d.del k).contains x = d.contains x := by
  simp [contains, get?_del_ne h]

theorem contains_del_self {d : AList κ ν} {k : κ} (h : d.keys.Nodup) : (d.del k).contains k = false := by
  simp [contains, get?_del_self h]

theorem mem_set {d : AList κ ν} {k : κ} {v : ν} {e : κ × ν} (h : e ∈ d.set k v) : e = (k, v) ∨ e ∈ d := by
  induction d with
  | nil => simpa [set] using h
  | cons e0 rest ih =>
    obtain ⟨k', v'⟩ := e0
    by_cases hk : k' = k
    · simp only [set, hk, if_true, List.mem_cons] at h ⊢
      exact h.imp_right Or.inr
    · simp only [set, hk, if_false, List.mem_cons] at h ⊢
      rcases h with h | h
      · exact Or.inr (Or.inl h)
      · exact (ih h).imp_right Or.inr

theorem mem_del {d : AList κ ν} {k : κ} {e : κ × ν} (h : e ∈ d.del k) : e ∈ d := by
  induction d with
  | nil => exact h
  | cons e' rest ih =>
    obtain ⟨k', v'⟩ := e'
    by_cases hk : k' = k
    · simp only [del, hk, if_true] at h; exact List.mem_cons_of_mem _ h
    · simp only [del, hk, if_false, List.mem_cons] at h ⊢
      exact h.imp_right ih

def All (P : ν → Prop) (d : AList κ ν) : Prop := ∀ e ∈ d, P e.2

theorem all_set {P : ν → Prop} {d : AList κ ν} {k : κ} {v : ν} (h : All P d) (hv : P v) : All P (d.set k v) :=
  fun e he => (mem_set he).elim (· ▸ hv) (h e)

theorem all_del {P : ν → Prop} {d : AList κ ν} {k : κ} (h : All P d) : All P (d.del k) :=
  fun e he => h e (mem_del he)

/-! deleting every key in turn, as the phases do that drain a working dictionary -/

theorem del_of_get?_none {d : AList κ ν} {k : κ} (h : d.get? k = none) : d.del k = d := by
  induction d with
  | nil => rfl
  | cons e d ih =>
    obtain ⟨k', v⟩ := e
    by_cases hk : k' = k
    · simp [get?, hk] at h
    · simp only [get?, hk, if_false] at h
      simp [del, hk, ih h]

theorem foldl_del_keys (d : AList κ ν) : d.keys.foldl (fun d k => d.del k) d = [] := by
  induction d with
  | nil => rfl
  | cons e d ih =>
    obtain ⟨k, v⟩ := e
    simpa [del] using ih

end Pysmi.AList
