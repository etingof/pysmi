import Pysmi.Props.C08
import Pysmi.Lemmas.Store
/-!
# C08, continued — lookups happen once and in source order; the import closure is covered

* `C08_sources_in_order`: the lookups one discovery step makes for a name are sources 0, 1, 2, … in the order they were
  added, without gaps or repetitions, and stop at the first source whose file parses and registers;
* `C08_fetch_once`: over a whole call of `compile` every source is asked for every name at most once — whatever the import
  graph (cycles, self-imports, several modules per file, aliases), the number of sources and the outcomes;
* `C08_closure`: when every file holds the module it is named after, the discovery loop ends with every requested name and
  every name in the IMPORTS of every module it parsed settled (parsed, or recorded as failed / missing).
-/
namespace Pysmi.Compile
open Pysmi

/-- the lookups among some calls, in order -/
def gets (t : List Call) : List Call := t.filter Call.isGet

structure Ext (s s' : St) (ext : List Call) : Prop where
  trace : s'.trace = s.trace ++ ext

theorem gets_append (a b : List Call) : gets (a ++ b) = gets a ++ gets b := by simp [gets]

theorem gets_eq_nil {t : List Call} (h : ∀ x ∈ t, x.isGet = false) : gets t = [] := by
  simpa [gets, List.filter_eq_nil_iff] using h

theorem count_gets (t : List Call) (j : Nat) (m : Name) : (gets t).count (.get j m) = t.count (.get j m) := by
  unfold gets; rw [List.count_filter]; rfl

theorem gets_of_adds {s s' : St} (h : Adds (·.isGet = false) s s') : gets s'.trace = gets s.trace := by
  obtain ⟨ext, h1, h2⟩ := h
  rw [h1, gets_append, gets_eq_nil h2, List.append_nil]

/-- **source order**: the lookups `trySources` makes for `n` are sources `i, i+1, …` in the order they were added, without gaps
or repetitions, stopping at the first source whose file parses and registers -/
theorem trySources_gets (c : Cfg) (req : List Name) (n : Name) (srcs : List (Name → SrcAns)) (i : Nat) (s : St) :
    ∃ ext len, (trySources c req n srcs i s).trace = s.trace ++ ext ∧ len ≤ srcs.length ∧
      gets ext = (List.range' i len).map (fun j => Call.get j n) := by
  -- when `i + len` sources have been asked, the lookups so far are those of sources `i, …, i + len - 1`
  refine trySources_post n (m := i + srcs.length)
    (P := fun j s' => ∃ ext len, j = i + len ∧ s'.trace = s.trace ++ ext ∧ len ≤ srcs.length ∧
      gets ext = (List.range' i len).map (fun j => Call.get j n))
    (Q := fun s' => ∃ ext len, s'.trace = s.trace ++ ext ∧ len ≤ srcs.length ∧
      gets ext = (List.range' i len).map (fun j => Call.get j n))
    ?_ ?_ (fun h => h) (fun ⟨ext, len, _, h⟩ => ⟨ext, len, h⟩)
    (fun _ _ _ _ _ h => by simpa only [registerTree_trace] using h)
    (fun _ _ _ _ _ ⟨ext, len, _, h⟩ => ⟨ext, len, h⟩) rfl ⟨[], 0, rfl, (List.append_nil _).symm, Nat.zero_le _, rfl⟩
  · rintro _ _ hj ⟨ext, len, rfl, e1, _, e2⟩
    exact ⟨ext ++ [.get (i + len) n], len + 1, rfl, by simp [St.log, e1], by omega,
      by rw [gets_append, e2, List.range'_concat, List.map_append, Nat.one_mul]; rfl⟩
  · rintro _ _ k hk _ ⟨ext, len, hj, e1, hl, e2⟩
    exact ⟨ext ++ [k], len, hj, by simp [St.log, e1], hl,
      by rw [gets_append, e2, gets_eq_nil (t := [k]) (by simpa using hk), List.append_nil]⟩

theorem C08_sources_in_order (c : Cfg) (req : List Name) (n : Name) (s : St) :
    ∃ ext len, (trySources c req n c.sources 0 s).trace = s.trace ++ ext ∧ len ≤ c.sources.length ∧
      gets ext = (List.range' 0 len).map (fun j => Call.get j n) :=
  trySources_gets c req n c.sources 0 s

/-- each (source, name) pair was looked up at most once, and only names recorded as looked up -/
def GInv (s : St) : Prop := (gets s.trace).Nodup ∧ ∀ j m, .get j m ∈ gets s.trace → m ∈ s.fetched

theorem ginv_lookup {c : Cfg} {req : List Name} {n : Name} (s : St) (hnf : n ∉ s.fetched) (h : GInv s) :
    GInv (trySources c req n c.sources 0 { s with fetched := n :: s.fetched }) := by
  obtain ⟨ext, len, h1, _, h3⟩ := trySources_gets c req n c.sources 0 { s with fetched := n :: s.fetched }
  rw [GInv, h1, gets_append, h3, trySources_fetched]
  refine ⟨List.nodup_append.mpr ⟨h.1, ?_, fun a ha b hb e => ?_⟩, fun j m hm => ?_⟩
  · exact List.Pairwise.map _ (fun a b hab e => hab (by injection e)) List.nodup_range'
  · -- the old lookups are for names looked up before, the new ones for `n`
    obtain ⟨k, _, rfl⟩ := List.mem_map.mp hb
    exact hnf (h.2 k n (e ▸ ha))
  · rcases List.mem_append.mp hm with hm | hm
    · exact List.mem_cons_of_mem _ (h.2 j m hm)
    · obtain ⟨k, _, e⟩ := List.mem_map.mp hm
      injection e with _ e
      exact e ▸ List.mem_cons_self

/-- **C08_fetch_once**: in a call of `compile`, every source is asked for every name at most once - whatever the import
graph (cycles, self-imports, aliases), the number of sources and the outcomes. -/
theorem C08_fetch_once (c : Cfg) (req : List Name) (o : Opts) (fuel : Nat) (out : Out) (h : run c req o fuel = some out)
    (j : Nat) (m : Name) : out.trace.count (.get j m) ≤ 1 := by
  obtain ⟨s0, _, hd, rfl, -, ht⟩ := run_out h
  have hg : GInv s0 := (discover_induction (P := GInv) (fun _ _ h => h)
    (fun {s _ q} _ _ _ hnf h => ginv_lookup { s with queue := q } hnf h) (⟨List.nodup_nil, nofun⟩ : GInv { queue := req }) hd).1
  -- the later phases make no lookups
  have late : ∀ {s s' : St}, Adds Call.Late s s' → gets s'.trace = gets s.trace := fun h => gets_of_adds (h.mono fun _ h => h.1)
  have hgets : gets (afterGate c o (phaseNeedBorrow c req o (phaseBorrow c req o (phaseGen c o (phaseNeed c o s0))))).trace =
      gets s0.trace :=
    afterGate_induction (P := fun s' => gets s'.trace = gets s0.trace) (fun _ e => e)
      (fun s k e => (gets_of_adds ((storeStep_trace c o s k).mono fun _ ⟨_, _, e⟩ => e ▸ rfl)).trans e)
      (gate_induction (P := fun s' => gets s'.trace = gets s0.trace)
        (fun s k e => (late (needStep_trace c o s k)).trans e) (fun s k e => (late (genStep_trace c o s k)).trans e)
        (fun s k e => (late (borrowStep_trace c req o s k)).trans e)
        (fun s k e => (late (needBorrowStep_trace c req o s k)).trans e) rfl)
  rw [ht, ← count_gets, hgets]
  exact List.nodup_iff_count.mp hg.1 _

/-- every file holds only the module it is named after -/
def Aligned (c : Cfg) : Prop :=
  ∀ src ∈ c.sources, ∀ n alias mtime text ts, src n = .ok alias mtime text → c.parse text = .trees ts →
    ∀ t ∈ ts, ∀ name imps, c.sym t = .ok name imps → name = n

/-- a name is settled: the module is parsed, or the name is recorded as failed / missing -/
def Done (s : St) (x : Name) : Prop := s.parsed.contains x = true ∨ s.failed.contains x = true

def importsOf (c : Cfg) (tree : Nat) : List Name :=
  match c.sym tree with
  | .ok _ imps => imps
  | .error => []

/-- the closure invariant, with the name `n` that is being looked up exempt -/
structure WInv (c : Cfg) (req : List Name) (n : Name) (s : St) : Prop where
  reqs : ∀ x ∈ req, x ∈ s.queue ∨ Done s x ∨ x = n
  imps : ∀ e ∈ s.parsed, ∀ x ∈ importsOf c e.2.2.2, x ∈ s.queue ∨ Done s x ∨ x = n
  fetched : ∀ x ∈ s.fetched, Done s x ∨ x = n

/-- The closure invariant is kept by any change of state under which what is queued stays queued (`hq`), what is settled
stays settled (`hd`), every parsed entry is an old one or has its imports queued (`hp`), and nothing new counts as looked
up (`hf`): every move of a lookup is of this kind. -/
theorem WInv.mono {c : Cfg} {req : List Name} {n : Name} {s s' : St} (h : WInv c req n s)
    (hq : ∀ x ∈ s.queue, x ∈ s'.queue) (hd : ∀ x, Done s x → Done s' x)
    (hp : ∀ e ∈ s'.parsed, e ∈ s.parsed ∨ ∀ x ∈ importsOf c e.2.2.2, x ∈ s'.queue)
    (hf : ∀ x ∈ s'.fetched, x ∈ s.fetched) : WInv c req n s' := by
  have ok : ∀ x, (x ∈ s.queue ∨ Done s x ∨ x = n) → (x ∈ s'.queue ∨ Done s' x ∨ x = n) :=
    fun x => Or.imp (hq x) (Or.imp_left (hd x))
  exact ⟨fun x hx => ok x (h.reqs x hx),
    fun e he x hx => (hp e he).elim (fun he' => ok x (h.imps e he' x hx)) (fun hnew => Or.inl (hnew x hx)),
    fun x hx => (h.fetched x (hf x hx)).imp_left (hd x)⟩

theorem done_failSource {s : St} {n : Name} {e : Err} {x : Name} (h : Done s x) : Done (failSource s n e) x :=
  h.imp_right AList.contains_set_of

theorem done_failSource_self (s : St) (n : Name) (e : Err) : Done (failSource s n e) n :=
  Or.inr AList.contains_set_self

theorem done_markMissing {s : St} {n x : Name} (h : Done s x) : Done (markMissing s n) x :=
  h.imp_right fun h => markMissing_failed.mpr (.inr h)

theorem done_markMissing_self (s : St) (n : Name) : Done (markMissing s n) n :=
  Or.inr (markMissing_failed.mpr (.inl rfl))

/-- registering the module `n` itself (aligned files): everything settled stays settled, its imports join the queue -/
theorem registerTree_aligned {c : Cfg} {req : List Name} {s : St} {n alias : Name} {mtime : Int} {tree : Nat} {imports : List Name}
    (hsym : c.sym tree = .ok n imports) (h : WInv c req n s) :
    WInv c req n (registerTree req s n alias mtime tree n imports) := by
  refine h.mono (fun x hx => ?_) (fun x hx => ?_) (fun e he => ?_) (fun x hx => registerTree_fetched ▸ hx)
  · rw [registerTree_queue]; exact List.mem_append_left _ hx
  · by_cases hxn : n = x
    · exact Or.inl (by rw [registerTree_parsed, hxn]; exact AList.contains_set_self)
    · exact hx.imp (fun hx => by rw [registerTree_parsed]; exact AList.contains_set_of hx)
        (fun hx => by rwa [registerTree_failed, AList.contains_del_ne hxn, AList.contains_del_ne hxn])
  · rw [registerTree_parsed] at he
    refine (AList.mem_set he).symm.imp_right fun he x hx => ?_
    subst he
    rw [registerTree_queue]
    exact List.mem_append_right _ (by simpa [importsOf, hsym] using hx)

theorem symTrees_parsed {c : Cfg} {req : List Name} {n alias : Name} {mtime : Int} {ts : List Nat}
    (hal : ∀ t ∈ ts, ∀ name imps, c.sym t = .ok name imps → name = n) {s s' : St}
    (h : symTrees c req n alias mtime ts s = (s', none)) (h0 : s.parsed.contains n = true ∨ ts ≠ []) :
    s'.parsed.contains n = true := by
  induction ts generalizing s with
  | nil => cases h; exact h0.resolve_right (· rfl)
  | cons t ts ih =>
    unfold symTrees at h
    cases hs : c.sym t with
    | error => simp [hs] at h
    | ok name imps =>
      simp only [hs] at h
      refine ih (fun t' ht' => hal t' (List.mem_cons_of_mem _ ht')) h (Or.inl ?_)
      rw [registerTree_parsed, hal t List.mem_cons_self name imps hs]
      exact AList.contains_set_self

theorem trySources_closure (c : Cfg) (req : List Name) (n : Name) (srcs : List (Name → SrcAns))
    (hal : ∀ src ∈ srcs, ∀ alias mtime text ts, src n = .ok alias mtime text → c.parse text = .trees ts →
      ∀ t ∈ ts, ∀ name imps, c.sym t = .ok name imps → name = n) :
    ∀ (i : Nat) (s : St), WInv c req n s → WInv c req n (trySources c req n srcs i s) ∧ Done (trySources c req n srcs i s) n := by
  intro i s h
  exact trySources_post n (P := fun _ => WInv c req n) (Q := fun s => WInv c req n s ∧ Done s n)
    (fun _ h => ⟨h.1, h.2, h.3⟩) (fun _ _ h => ⟨h.1, h.2, h.3⟩)
    (fun h => h.mono (fun _ h => h) (fun _ => done_failSource) (fun _ he => Or.inl he) (fun _ h => h))
    (fun h => ⟨h.mono (fun _ h => h) (fun _ => done_markMissing) (fun _ he => Or.inl he) (fun _ h => h),
      done_markMissing_self _ n⟩)
    (fun hsrc h1 h2 ht hs h => by
      obtain rfl := hal _ hsrc _ _ _ _ h1 h2 _ ht _ _ hs
      exact registerTree_aligned hs h)
    (fun hsrc h1 h2 hne hst h =>
      ⟨h, Or.inl (symTrees_parsed (hal _ hsrc _ _ _ _ h1 h2) hst (Or.inr hne))⟩)
    rfl h

/-- the closure invariant proper -/
structure CInv (c : Cfg) (req : List Name) (s : St) : Prop where
  reqs : ∀ x ∈ req, x ∈ s.queue ∨ Done s x
  imps : ∀ e ∈ s.parsed, ∀ x ∈ importsOf c e.2.2.2, x ∈ s.queue ∨ Done s x
  fetched : ∀ x ∈ s.fetched, Done s x

/-- popping `n`: what relied on `n` being queued now waits for `n` to be settled ... -/
theorem CInv.pop {c : Cfg} {req : List Name} {s : St} {n : Name} {q : List Name} (h : CInv c req s) (hq : s.queue = n :: q)
    (f : List Name) (hf : ∀ x ∈ f, x ∈ s.fetched ∨ x = n) : WInv c req n { s with queue := q, fetched := f } := by
  have pop : ∀ x, (x ∈ s.queue ∨ Done s x) → (x ∈ q ∨ Done s x ∨ x = n) := by
    intro x hx
    rw [hq, List.mem_cons] at hx
    exact hx.elim (·.elim (fun h => .inr (.inr h)) .inl) (fun h => .inr (.inl h))
  exact ⟨fun x hx => pop x (h.reqs x hx), fun e he x hx => pop x (h.imps e he x hx),
    fun x hx => (hf x hx).imp_left (h.fetched x)⟩

/-- ... and is content once it is -/
theorem WInv.settle {c : Cfg} {req : List Name} {s : St} {n : Name} (w : WInv c req n s) (hd : Done s n) : CInv c req s :=
  have ok : ∀ x, (x ∈ s.queue ∨ Done s x ∨ x = n) → (x ∈ s.queue ∨ Done s x) :=
    fun _ => Or.imp_right fun h => h.elim id (· ▸ hd)
  ⟨fun x hx => ok x (w.reqs x hx), fun e he x hx => ok x (w.imps e he x hx), fun x hx => (w.fetched x hx).elim id (· ▸ hd)⟩

/-- **C08_closure**: when every file holds the module it is named after, the discovery loop ends with every requested
name, and every name in the IMPORTS of every module it parsed, settled - parsed, or recorded as failed / missing: the
import closure of the request is covered, for every import graph (cycles, self-imports) and every outcome assignment. -/
theorem C08_closure (c : Cfg) (hal : Aligned c) (req : List Name) (fuel : Nat) (s : St)
    (hd : discover c req fuel { queue := req } = some s) :
    (∀ x ∈ req, Done s x) ∧ (∀ e ∈ s.parsed, ∀ x ∈ importsOf c e.2.2.2, Done s x) := by
  obtain ⟨h, hq⟩ := discover_induction (P := CInv c req)
    (fun {s n _} hq hs h => (h.pop hq s.fetched fun _ => Or.inl).settle (hs.elim .inl (·.elim .inr (h.fetched n))))
    (fun {s n _} hq _ _ _ h =>
      have ⟨w, hd⟩ := trySources_closure c req n c.sources (fun src hs => hal src hs n) 0 _
        (h.pop hq (n :: s.fetched) fun _ hx => (List.mem_cons.mp hx).symm)
      w.settle hd)
    (⟨fun x hx => Or.inl hx, fun e he => (nomatch he), fun x hx => (nomatch hx)⟩ : CInv c req { queue := req }) hd
  have ok : ∀ x, (x ∈ s.queue ∨ Done s x) → Done s x := fun x h => h.resolve_left (by simp [hq])
  exact ⟨fun x hx => ok x (h.reqs x hx), fun e he x hx => ok x (h.imps e he x hx)⟩

end Pysmi.Compile
