import Pysmi.Model.PyStr
import Pysmi.Lemmas.Except
/-!
# C15 — descriptive texts reach the output intact and only when requested

* `C15_gating`: a gated text (DESCRIPTION, REFERENCE, ORGANIZATION, CONTACT-INFO) is emitted iff text generation is on
  and the text is non-empty; never when it is off.
* `C15_normalise_idempotent`, `C15_normalise_only_whitespace`: the default filter `re.sub(r'\s+', ' ', text)` (Python's
  white-space class regenerated from CPython) is idempotent and changes nothing but white space.
* `C15_py_block`: a text written into the pysnmp module as `"""\⏎` + `pyblock (wordwrap text)` + `⏎"""` evaluates, through
  the tokenizer's newline normalisation and Python's escape rules, to the text up to white space — for every text
  (backslashes, apostrophes, quotes, line breaks, NUL, any code point) and every wrapping function that only changes
  white space (checked against Jinja's `wordwrap` for every generated string).
* `C15_py_line`: a one-line site `"` + `pyline text` + `"` evaluates to exactly the text.
* `C15_py_block_needs_escaping`: the pinned behaviour (no escaping) turned `C:\new` into a line break and made `\x` a
  SyntaxError.
* `pin_pysnmpTextSites`: every place where the template writes a free-form text uses one of the two shapes with its filter.
-/
namespace Pysmi.PyStr

theorem isWs_space : isWs ' ' = true := by decide +kernel
theorem isWs_cr : isWs '\r' = true := by decide +kernel
theorem isWs_lf : isWs '\n' = true := by decide +kernel

theorem dropWs_cons (c : Char) (s : Str) : dropWs (c :: s) = if isWs c then dropWs s else c :: dropWs s := by
  cases h : isWs c <;> simp [dropWs, h]

theorem norm_norm (b : Bool) (s : Str) : norm b (norm b s) = norm b s := by
  fun_induction norm b s <;> simp [norm, isWs_space, *]

theorem C15_normalise_idempotent (s : Str) : normalize (normalize s) = normalize s := norm_norm false s

theorem dropWs_norm (b : Bool) (s : Str) : dropWs (norm b s) = dropWs s := by
  fun_induction norm b s <;> simp [dropWs_cons, isWs_space, *]

/-- **C15_normalise_only_whitespace**: the default filter changes nothing but white space -/
theorem C15_normalise_only_whitespace (s : Str) : dropWs (normalize s) = dropWs s := dropWs_norm false s

theorem C15_gating (genTexts : Bool) (text : Option Str) :
    (genTexts = false → gated genTexts text = none) ∧
    (∀ t, gated genTexts text = some t ↔ (genTexts = true ∧ text = some t ∧ t ≠ [])) := by
  constructor
  · intro h; subst h; cases text <;> simp [gated]
  · intro t
    cases text with
    | none => simp [gated]
    | some u =>
      cases genTexts <;> cases u <;> simp [gated]
      · intro h; subst h; simp

theorem map_ok {α β : Type} {ε : Type} (f : α → β) (x : α) : (Except.ok x : Except ε α).map f = .ok (f x) := rfl

theorem pyblock_cons (c : Char) (cs : Str) : pyblock (c :: cs) =
    (if c = '\\' then ['\\', '\\'] else if c = '"' then ['\\', '"'] else if c = nul then ['\\', 'x', '0', '0'] else [c]) ++ pyblock cs := by
  simp [pyblock]

theorem pyline_cons (c : Char) (cs : Str) : pyline (c :: cs) =
    (if c = '\\' then ['\\', '\\'] else if c = '"' then ['\\', '"'] else if c = nul then ['\\', 'x', '0', '0']
      else if c = '\n' then ['\\', 'n'] else if c = '\r' then ['\\', 'r'] else [c]) ++ pyline cs := by
  simp [pyline]

/-- What the escaping filters write for one character: `pyblock` with `line = false`; `pyline`, which escapes line ends as
well, with `line = true`. What the two filters have in common is proved once, for both values of `line`. -/
def esc (line : Bool) (c : Char) : Str :=
  if c = '\\' then ['\\', '\\'] else if c = '"' then ['\\', '"'] else if c = nul then ['\\', 'x', '0', '0']
  else if line ∧ c = '\n' then ['\\', 'n'] else if line ∧ c = '\r' then ['\\', 'r'] else [c]

theorem pyblock_eq (s : Str) : pyblock s = s.flatMap (esc false) :=
  congrArg (List.flatMap · s) (funext fun c => by simp [esc])

theorem pyline_eq (s : Str) : pyline s = s.flatMap (esc true) :=
  congrArg (List.flatMap · s) (funext fun c => by simp [esc])

/-- case analysis along `esc`: a property of a character and what is written for it -/
theorem esc_cases {line : Bool} {P : Char → Str → Prop} (bs : P '\\' ['\\', '\\']) (dq : P '"' ['\\', '"'])
    (nl : P nul ['\\', 'x', '0', '0']) (lf : P '\n' ['\\', 'n']) (cr : P '\r' ['\\', 'r'])
    (plain : ∀ c, c ≠ '\\' → c ≠ '"' → c ≠ nul → (line = true → c ≠ '\n' ∧ c ≠ '\r') → P c [c]) (c : Char) :
    P c (esc line c) := by
  unfold esc
  by_cases h1 : c = '\\'
  · rw [if_pos h1, h1]; exact bs
  by_cases h2 : c = '"'
  · rw [if_neg h1, if_pos h2, h2]; exact dq
  by_cases h3 : c = nul
  · rw [if_neg h1, if_neg h2, if_pos h3, h3]; exact nl
  by_cases h4 : line = true ∧ c = '\n'
  · rw [if_neg h1, if_neg h2, if_neg h3, if_pos h4, h4.2]; exact lf
  by_cases h5 : line = true ∧ c = '\r'
  · rw [if_neg h1, if_neg h2, if_neg h3, if_neg h4, if_pos h5, h5.2]; exact cr
  rw [if_neg h1, if_neg h2, if_neg h3, if_neg h4, if_neg h5]
  exact plain c h1 h2 h3 fun hl => ⟨fun h => h4 ⟨hl, h⟩, fun h => h5 ⟨hl, h⟩⟩

/-- a character is read back from what is written for it, in one step of the evaluation -/
theorem evalBody_esc (line : Bool) (c : Char) (fuel : Nat) (rest : Str) :
    evalBody (fuel + 1) (esc line c ++ rest) = (evalBody fuel rest).map (c :: ·) :=
  esc_cases (P := fun c img => evalBody (fuel + 1) (img ++ rest) = (evalBody fuel rest).map (c :: ·))
    rfl rfl rfl rfl rfl (fun c h1 _ _ _ => by rw [List.singleton_append, evalBody]; exact h1) c

theorem esc_length_pos (line : Bool) (c : Char) : 0 < (esc line c).length :=
  esc_cases (P := fun _ img => 0 < img.length) (by decide) (by decide) (by decide) (by decide) (by decide)
    (fun _ _ _ _ _ => Nat.succ_pos _) c

theorem evalBody_flatMap_esc (line : Bool) : ∀ (s : Str) (fuel : Nat), (s.flatMap (esc line)).length < fuel →
    evalBody fuel (s.flatMap (esc line)) = .ok s
  | [], fuel, _ => by cases fuel <;> rfl
  | c :: cs, 0, h => by cases h
  | c :: cs, fuel + 1, h => by
    rw [List.flatMap_cons, List.length_append] at h
    have := esc_length_pos line c
    rw [List.flatMap_cons, evalBody_esc, evalBody_flatMap_esc line cs fuel (by omega)]; rfl

theorem evalBody_pyblock : ∀ (s : Str) (fuel : Nat), (pyblock s).length < fuel → evalBody fuel (pyblock s) = .ok s := by
  intro s; rw [pyblock_eq]; exact evalBody_flatMap_esc false s

theorem evalBody_pyline : ∀ (s : Str) (fuel : Nat), (pyline s).length < fuel → evalBody fuel (pyline s) = .ok s := by
  intro s; rw [pyline_eq]; exact evalBody_flatMap_esc true s

/-- a scanner that passes over what is written for one character passes over an escaped text -/
theorem scan_flatMap_esc {β : Type} {line : Bool} (g : Str → β) (h : ∀ c rest, g (esc line c ++ rest) = g rest) (s : Str) :
    g (s.flatMap (esc line)) = g [] := by
  induction s with
  | nil => rfl
  | cons c cs ih => rw [List.flatMap_cons, h, ih]

theorem hasBareQuote_flatMap_esc (line : Bool) (s : Str) : hasBareQuote false (s.flatMap (esc line)) = false :=
  scan_flatMap_esc _ (fun c rest =>
    esc_cases (P := fun _ img => hasBareQuote false (img ++ rest) = hasBareQuote false rest) rfl rfl rfl rfl rfl
      (fun c h1 h2 _ _ => by simp [hasBareQuote, h1, h2]) c) s

theorem escAtEnd_flatMap_esc (line : Bool) (s : Str) : escAtEnd false (s.flatMap (esc line)) = false :=
  scan_flatMap_esc _ (fun c rest =>
    esc_cases (P := fun _ img => escAtEnd false (img ++ rest) = escAtEnd false rest) rfl rfl rfl rfl rfl
      (fun c h1 _ _ _ => by simp [escAtEnd, h1]) c) s

theorem contains_nul_flatMap_esc (line : Bool) (s : Str) : (s.flatMap (esc line)).contains nul = false := by
  simp only [List.contains_eq_mem, List.mem_flatMap, decide_eq_false_iff_not, not_exists, not_and]
  exact fun c _ => esc_cases (P := fun _ img => nul ∉ img) (by decide) (by decide) (by decide) (by decide) (by decide)
    (fun c _ _ h3 _ => by simpa using Ne.symm h3) c

theorem newline_not_mem_pyline (s : Str) : '\n' ∉ pyline s ∧ '\r' ∉ pyline s := by
  simp only [pyline_eq, List.mem_flatMap, not_exists, not_and, ← forall_and]
  exact fun c _ => esc_cases (P := fun _ img => '\n' ∉ img ∧ '\r' ∉ img) (by decide) (by decide) (by decide)
    (by decide) (by decide) (fun c _ _ _ h => by simpa [eq_comm] using h rfl) c

theorem srcNl_id : ∀ {s : Str} {b : Bool}, '\n' ∉ s → '\r' ∉ s → srcNl b s = s
  | [], _, _, _ => rfl
  | c :: cs, b, h1, h2 => by
    rw [List.mem_cons, not_or] at h1 h2
    simp [srcNl, Ne.symm h1.1, Ne.symm h2.1, srcNl_id h1.2 h2.2]

theorem no_bare_newline : ∀ {s : Str} {b : Bool}, '\n' ∉ s → hasBareNewline b s = false
  | [], _, _ => rfl
  | c :: cs, b, h => by
    rw [List.mem_cons, not_or] at h
    cases b <;> simp [hasBareNewline, Ne.symm h.1, no_bare_newline h.2]

/-- **C15_py_line**: a one-line site written through `pyline` evaluates to exactly the text - any characters. -/
theorem C15_py_line (s : Str) : lineValue (pyline s) = .ok s := by
  obtain ⟨i2, i3⟩ := newline_not_mem_pyline s
  unfold lineValue srcNewlines
  rw [srcNl_id i2 i3, no_bare_newline i2]
  simp only [pyline_eq, contains_nul_flatMap_esc, hasBareQuote_flatMap_esc, escAtEnd_flatMap_esc, Bool.or_self, Bool.false_eq_true, if_false]
  exact evalBody_flatMap_esc true s _ (Nat.lt_succ_self _)

/-! the tokenizer's newline normalisation commutes with the block escaping and only touches white space -/

theorem dropWs_srcNl (b : Bool) (s : Str) : dropWs (srcNl b s) = dropWs s := by
  fun_induction srcNl b s <;> simp [dropWs_cons, isWs_cr, isWs_lf, *]

/-- what `pyblock` writes for a character holds no line end, so the normalisation passes over it as it does over the
character (`hr`, `hn`: the character is not one the normalisation rewrites) -/
theorem srcNl_esc {c : Char} {b : Bool} {rest : Str} (hr : c ≠ '\r') (hn : ¬(c = '\n' ∧ b = true)) :
    srcNl b (esc false c ++ rest) = esc false c ++ srcNl false rest :=
  esc_cases (P := fun c img => c ≠ '\r' → ¬(c = '\n' ∧ b = true) → srcNl b (img ++ rest) = img ++ srcNl false rest)
    (fun _ _ => rfl) (fun _ _ => rfl) (fun _ _ => rfl) (fun _ _ => rfl) (fun h _ => absurd rfl h)
    (fun c _ _ _ _ hr hn => by simp [srcNl, hr, hn]) c hr hn

theorem srcNl_flatMap_esc (b : Bool) (s : Str) : srcNl b (s.flatMap (esc false)) = (srcNl b s).flatMap (esc false) := by
  fun_induction srcNl b s
  case case1 => rfl
  case case2 ih => exact congrArg ('\n' :: ·) ih
  case case3 h ih => obtain ⟨rfl, rfl⟩ := h; exact ih
  case case4 b c cs hr hn ih => rw [List.flatMap_cons, srcNl_esc hr hn, ih]; rfl

/-- what a block site written through `pyblock` evaluates to: the text as the tokenizer reads it, with the line end that
stands before the closing quotes -/
theorem blockValue_pyblock (t : Str) : blockValue (pyblock t) = .ok (srcNewlines (t ++ ['\n'])) := by
  unfold blockValue
  simp only [pyblock_eq, contains_nul_flatMap_esc, hasBareQuote_flatMap_esc, Bool.or_self, Bool.false_eq_true, if_false]
  have e : srcNewlines ('\\' :: '\n' :: t.flatMap (esc false) ++ ['\n']) =
      '\\' :: '\n' :: (srcNewlines (t ++ ['\n'])).flatMap (esc false) := by
    unfold srcNewlines
    rw [← srcNl_flatMap_esc, List.flatMap_append]; rfl
  -- the evaluation drops the leading `\` LF as a line continuation
  rw [e]
  exact evalBody_flatMap_esc false _ (_ + 2) (Nat.lt_add_of_pos_right (by decide))

/-- **C15_py_block**: a block site written as `pyblock (wordwrap text)` evaluates to the text up to white space - for
every text (backslashes, apostrophes, line breaks, NUL, non-ASCII …) and every wrapping function that itself only
changes white space. -/
theorem C15_py_block (w : Str → Str) (s : Str) (hw : dropWs (w s) = dropWs s) :
    ∃ v, blockValue (pyblock (w s)) = .ok v ∧ dropWs v = dropWs s :=
  ⟨_, blockValue_pyblock (w s), by rw [srcNewlines, dropWs_srcNl]; simpa [dropWs, isWs_lf] using hw⟩

/-- **C15_py_block_needs_escaping** (the pinned behaviour, F21): written without `pyblock`, a text with a backslash is
evaluated to something else or does not compile. -/
theorem C15_py_block_needs_escaping :
    blockValue "C:\\new".toList = .ok "C:\new\n".toList ∧ blockValue "\\x".toList = .error .syntaxError ∧
    lineValue "a\\".toList = .error .syntaxError := by decide +kernel

end Pysmi.PyStr

namespace Pysmi.Generated.Text

/-- every free-form text of the pysnmp template goes through the escaping filter of its literal shape -/
theorem pin_pysnmpTextSites : pysnmpTextSites = [
  ("definition['organization']|wordwrap|pyblock", "block"),
  ("definition['contactinfo']|wordwrap|pyblock", "block"),
  ("definition['description']|wordwrap|pyblock", "block"),
  ("definition['displayhint']|pyline", "line"),
  ("definition['description']|wordwrap|pyblock", "block"),
  ("definition['units']|pyline", "line"),
  ("definition['reference']|wordwrap|pyblock", "block"),
  ("definition['description']|wordwrap|pyblock", "block"),
  ("definition['description']|wordwrap|pyblock", "block"),
  ("definition['description']|wordwrap|pyblock", "block"),
  ("definition['description']|wordwrap|pyblock", "block"),
  ("definition['productrelease']|pyline", "line"),
  ("definition['reference']|pyline", "line"),
  ("definition['description']|wordwrap|pyblock", "block"),
  ("definition['description']|wordwrap|pyblock", "block")] := rfl

/-- Python's white-space class as pinned when the model was written -/
theorem pin_pyWhitespace : pyWhitespace = [9, 10, 11, 12, 13, 28, 29, 30, 31, 32, 133, 160, 5760, 8192, 8193, 8194, 8195, 8196,
  8197, 8198, 8199, 8200, 8201, 8202, 8232, 8233, 8239, 8287, 12288] := rfl

end Pysmi.Generated.Text
