import Pysmi.Generated.Skeletons
/-!
# Pins (C01): the control skeletons the hand-written models and oracles were written against

`Generated/Skeletons.lean` is rewritten from the source on every run (calls other than logging, string plumbing and pure
builtins, raises with their exception class, returns, loops, branches, handlers - in source order; for the scripts also the
exit status of every `sys.exit`).  A structural change of one of these methods breaks its pin - which is not by itself a
violation: the check then searches model and code for a failing input and reports what it finds.
(Literals written by harness/tools/repin.py when the models were last brought in line with the source.)
-/
namespace Pysmi.Pins.SkelC01
open Pysmi.Generated.Skeletons

/-- SymtableCodeGen.genCode (pysmi/codegen/symtable.py) -/
theorem pin_symtableGenCode : symtableGenCode = [
    "call:kwargs.get", "call:self._rows.clear", "call:self._cols.clear", "call:self._parentOids.clear",
    "call:self._postponedSyms.clear", "call:self._importMap.clear", "call:self.genImports", "loop", "if",
    "call:self.handlersTable[declr[0]]", "call:self.prepData", "if", "raise:error.PySmiSemanticError",
    "call:error.PySmiSemanticError", "loop", "if", "raise:error.PySmiSemanticError", "call:error.PySmiSemanticError",
    "return:value", "call:MibInfo"] := rfl

/-- SymtableCodeGen.regPostponedSyms (pysmi/codegen/symtable.py) -/
theorem pin_regPostponed : regPostponed = [
    "loop", "loop", "call:self._postponedSyms.items", "if", "call:self.allParentsExists",
    "call:self._symsOrder.append", "call:regedSyms.append", "loop", "call:self._postponedSyms.pop"] := rfl

/-- IntermediateCodeGen.genNumericOid (pysmi/codegen/intermediate.py) -/
theorem pin_genNumericOid : genNumericOid = [
    "loop", "if", "if", "if", "raise:error.PySmiSemanticError", "call:error.PySmiSemanticError", "if",
    "raise:error.PySmiSemanticError", "call:error.PySmiSemanticError", "if", "raise:error.PySmiSemanticError",
    "call:error.PySmiSemanticError", "if", "raise:error.PySmiSemanticError", "call:error.PySmiSemanticError",
    "call:self.genNumericOid", "return:value"] := rfl

end Pysmi.Pins.SkelC01
