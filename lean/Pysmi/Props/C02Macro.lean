import Pysmi.Props.C02
import Pysmi.Model.LexCfg
/-!
# C02 — the contents of a MACRO block do not matter

`MACRO … END`: in the lexer's `macro` state line ends are counted, everything else up to the first `END` is discarded
(`.+?(?=END)` under DOTALL), `END` is returned as a token and the lexer is back in INITIAL.  Proved for every body that
does not contain `END`, whatever else it holds (quotes, braces, keywords, line ends of any kind).
-/
namespace Pysmi.Lexer

def endW : Str := "END".toList

def NoEND (b : Str) : Prop := ∀ i, startsWith (b.drop i) endW = false

theorem noEND_drop {b : Str} (h : NoEND b) (n : Nat) : NoEND (b.drop n) := by
  intro i; rw [List.drop_drop]; exact h _

/-- no `END` starts inside a body free of it, even when `END` follows (no overlap is possible) -/
theorem no_straddle {t : Str} (rest : Str) (ht : t ≠ []) (h : startsWith t endW = false) :
    startsWith (t ++ 'E' :: 'N' :: 'D' :: rest) endW = false := by
  match t, ht with
  | [x], _ => simp [startsWith, endW]
  | [x, y], _ => simp [startsWith, endW]
  | x :: y :: z :: more, _ => simpa [startsWith, endW] using h

theorem go_spec : ∀ (m : Nat) (t : Str) (k : Nat), (∀ i, i < m → startsWith (t.drop i) endW = false) →
    startsWith (t.drop m) endW = true → macroBodyLen.go t k = some (k + m)
  | _, [], _, _, hend => by simp [startsWith, endW] at hend
  | 0, c :: cs, k, _, hend => by rw [macroBodyLen.go, if_pos (show startsWith (c :: cs) "END".toList = true from hend)]; rfl
  | m + 1, c :: cs, k, hfree, hend => by
    have h0 : ¬ startsWith (c :: cs) "END".toList = true := Bool.eq_false_iff.mp (hfree 0 (Nat.succ_pos m))
    rw [macroBodyLen.go, if_neg h0, go_spec m cs (k + 1) (fun i hi => hfree (i + 1) (Nat.succ_lt_succ hi)) hend]
    congr 1; omega

theorem macroBodyLen_append {b : Char} {bs : Str} (hb : NoEND (b :: bs)) (rest : Str) :
    startsWith (b :: (bs ++ 'E' :: 'N' :: 'D' :: rest)) endW = false ∧
    macroBodyLen (b :: (bs ++ 'E' :: 'N' :: 'D' :: rest)) = some (bs.length + 1) := by
  -- no END starts inside the body, the first one is right behind it
  have hfree : ∀ i, i < bs.length + 1 → startsWith ((b :: (bs ++ 'E' :: 'N' :: 'D' :: rest)).drop i) endW = false := by
    intro i hi
    rw [← List.cons_append, List.drop_append_of_le_length (by simp; omega)]
    exact no_straddle rest (fun h => by simp at h; omega) (hb i)
  exact ⟨hfree 0 (Nat.succ_pos _), (go_spec bs.length (bs ++ 'E' :: 'N' :: 'D' :: rest) 1 (fun i hi => hfree (i + 1) (by omega))
    (by simp [startsWith, endW])).trans (by rw [Nat.add_comm])⟩

def endTok (line : Nat) : Tok := ⟨"END", .str "END".toList, line⟩

theorem step_macro_end (cfg : Cfg) (line : Nat) (rest : Str) :
    step cfg .macro line ('E' :: 'N' :: 'D' :: rest) = .tok (endTok line) 3 .initial 0 := by
  simp [step, newlineLen, startsWith, endTok]

/-- the body of a MACRO up to its `END` is skipped whatever it contains; only the line counter moves -/
theorem skips_macro (cfg : Cfg) {body : Str} (rest : Str) (hb : NoEND body) :
    ∃ d, SkipsTo cfg .macro (body ++ 'E' :: 'N' :: 'D' :: rest) d .macro ('E' :: 'N' :: 'D' :: rest) :=
  skips_body cfg .macro NoEND 'E' ('N' :: 'D' :: rest) (by decide) (fun _ n h => noEND_drop h n)
    (fun s n line h => by simp only [step, h])
    (fun b bs hb hnl => ⟨countNewlines ((b :: (bs ++ 'E' :: 'N' :: 'D' :: rest)).take (bs.length + 1)), fun line => by
      have ⟨hhead, hlen⟩ := macroBodyLen_append hb rest
      simp only [step, hnl, show startsWith _ "END".toList = false from hhead, hlen, Bool.false_eq_true, if_false]⟩)
    body hb

/-- … the next token is `END`, then the lexer is back in the INITIAL state at the text that follows -/
theorem scan_macro (cfg : Cfg) :
    ∀ (len : Nat) (body rest : Str), body.length ≤ len → NoEND body →
      ∃ k d, ∀ fuel line, scan cfg (fuel + k) .macro line (body ++ 'E' :: 'N' :: 'D' :: rest) =
        (scan cfg fuel .initial (line + d) rest).map (endTok (line + d) :: ·) := by
  intro _ body rest _ hb
  obtain ⟨d, k, hk⟩ := skips_macro cfg rest hb
  refine ⟨1 + k, d, fun fuel line => ?_⟩
  rw [← Nat.add_assoc, hk, scan_cons, step_macro_end]
  simp

/-- **C02_macro_opaque**: inside `MACRO … END` nothing but the terminating `END` matters: any two bodies free of `END`
give, after the `END` token, the same tokens for the text that follows. -/
theorem C02_macro_opaque (cfg : Cfg) (b1 b2 rest : Str) (h1 : NoEND b1) (h2 : NoEND b2) :
    ∃ k1 k2, ∀ fuel l1 l2, strip (scan cfg (fuel + k1) .macro l1 (b1 ++ 'E' :: 'N' :: 'D' :: rest)) =
      strip (scan cfg (fuel + k2) .macro l2 (b2 ++ 'E' :: 'N' :: 'D' :: rest)) := by
  obtain ⟨_, hk1⟩ := skips_macro cfg rest h1
  obtain ⟨_, hk2⟩ := skips_macro cfg rest h2
  exact hk1.strip_eq hk2

def noEndB (b : Str) : Bool := (List.range (b.length + 1)).all fun i => !startsWith (b.drop i) endW

theorem noEND_of_noEndB (b : Str) (h : noEndB b = true) : NoEND b := by
  intro i
  by_cases hi : i < b.length + 1
  · have := (List.all_eq_true.mp h) i (List.mem_range.mpr hi)
    simpa using this
  · have : b.drop i = [] := List.drop_eq_nil_of_le (by omega)
    rw [this]; rfl

/-- non-vacuity: the body of a real macro definition (several lines, quotes, braces, the word `BEGIN`) is skipped -/
example : NoEND " ::= BEGIN TYPE NOTATION ::= \"SYNTAX\" type(Syntax)\n  VALUE NOTATION ::= value(VALUE ObjectName) ".toList :=
  -- `String.toList_ofList` reads the characters off the literal; left to the kernel, `toList` decodes it at a cost quadratic in its length
  noEND_of_noEndB _ (by rw [String.toList_ofList]; decide +kernel)

example : (match strip (scan cfgV2 100 .macro 1 " ::= BEGIN x\n y END z OBJECT".toList) with
    | .ok ts => ts.map (·.1)
    | .error _ => []) = ["END", "LOWERCASE_IDENTIFIER", "OBJECT"] := by decide +kernel

end Pysmi.Lexer
