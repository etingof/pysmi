import Pysmi.Model.Names
/-!
# C03 — the customary renaming of symbols (hyphen to underscore)

`IntermediateCodeGen.transOpers` is `symbol.replace('-', '_')`: every key of the JSON document, every `name` member and every
reference to another symbol goes through it (since repair eb48f69 also the `name` of a type).  The property allows exactly
this renaming; what it must not do is merge two declared symbols or hide one.

* `C03_trans_no_hyphen`, `C03_trans_idempotent`, `C03_trans_length`, `C03_trans_only_hyphens` - the renaming touches hyphens
  only, position by position.
* `C03_trans_injective` - two names without an underscore (SMI identifiers proper: letters, digits, hyphens) that differ have
  different keys: no declared symbol is merged with another by the renaming.
* `C03_trans_collision_witness` - with underscores admitted (the lexer's `A-z` range lets them through) `a-b` and `a_b`
  do share a key: the hypothesis is needed.
-/
namespace Pysmi.Names

theorem C03_trans_no_hyphen (s : List Char) : '-' ∉ trans s := by
  intro h
  obtain ⟨c, _, hc⟩ := List.mem_map.mp h
  split at hc
  · exact absurd hc (by decide)
  · exact ‹¬c = '-'› hc

theorem C03_trans_length (s : List Char) : (trans s).length = s.length := by
  simp [trans]

/-- position by position: a character that is no hyphen stays, a hyphen becomes an underscore -/
theorem C03_trans_only_hyphens (s : List Char) (i : Nat) (h : i < s.length) :
    (trans s)[i]'(by rw [C03_trans_length]; exact h) = if s[i] = '-' then '_' else s[i] := by
  simp [trans]

/-- a name that holds no hyphen is its own key -/
theorem C03_trans_fixed (s : List Char) (h : '-' ∉ s) : trans s = s :=
  (List.map_congr_left fun c hc => if_neg fun (e : c = '-') => h (e ▸ hc)).trans (List.map_id s)

theorem C03_trans_idempotent (s : List Char) : trans (trans s) = trans s :=
  C03_trans_fixed _ (C03_trans_no_hyphen s)

/-- on names without an underscore the renaming is undone by renaming back -/
theorem untrans_trans {s : List Char} (hs : '_' ∉ s) : (trans s).map (fun c => if c = '_' then '-' else c) = s := by
  rw [trans, List.map_map]
  refine (List.map_congr_left fun c hc => ?_).trans (List.map_id s)
  have : c ≠ '_' := fun e => hs (e ▸ hc)
  by_cases h : c = '-' <;> simp [h, this]

/-- **C03_trans_injective**: names without an underscore that differ have different keys. -/
theorem C03_trans_injective (s t : List Char) (hs : '_' ∉ s) (ht : '_' ∉ t) (h : trans s = trans t) : s = t := by
  rw [← untrans_trans hs, ← untrans_trans ht, h]

/-- ... and the hypothesis is needed -/
theorem C03_trans_collision_witness : trans "a-b".toList = trans "a_b".toList ∧ "a-b".toList ≠ "a_b".toList := by decide

/-- distinct declared names (none with an underscore) give distinct keys: the keys of a module are as many as its names -/
theorem C03_keys_nodup (names : List (List Char)) (hu : ∀ n ∈ names, '_' ∉ n) (hnd : names.Nodup) : (names.map trans).Nodup :=
  List.pairwise_map.mpr (hnd.imp_of_mem fun ha hb hne h => hne (C03_trans_injective _ _ (hu _ ha) (hu _ hb) h))

example : trans "My-Type-2".toList = "My_Type_2".toList := by decide +kernel
example : (["if-index".toList, "ifIndex".toList, "if-Index".toList].map trans).Nodup := by decide +kernel

end Pysmi.Names
