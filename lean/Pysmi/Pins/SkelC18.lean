import Pysmi.Generated.Skeletons
/-!
# Pins (C18): the control skeletons the hand-written models and oracles were written against

`Generated/Skeletons.lean` is rewritten from the source on every run (calls other than logging, string plumbing and pure
builtins, raises with their exception class, returns, loops, branches, handlers - in source order; for the scripts also the
exit status of every `sys.exit`).  A structural change of one of these methods breaks its pin - which is not by itself a
violation: the check then searches model and code for a failing input and reports what it finds.
(Literals written by harness/tools/repin.py when the models were last brought in line with the source.)
-/
namespace Pysmi.Pins.SkelC18
open Pysmi.Generated.Skeletons

/-- JsonCodeGen.genIndex (pysmi/codegen/jsondoc.py) -/
theorem pin_jsonGenIndex : jsonGenIndex = [
    "if", "call:kwargs.get", "call:outDict.update", "call:json.loads", "except:Exception",
    "raise:error.PySmiCodegenError", "call:error.PySmiCodegenError", "call:sys.exc_info", "if", "loop",
    "call:x.split", "call:order", "except:ValueError", "loop", "call:order", "return:value", "if", "loop",
    "call:new_top.append", "call:order", "return:value", "return:value", "loop", "call:processed.items", "if", "if",
    "call:modData[identity_oid].append", "if", "if", "call:modData[enterprise_oid].append", "loop", "if",
    "call:modData[compliance_oid].append", "loop", "if", "call:modData[object_oid].append", "if", "loop",
    "call:x.count", "loop", "call:unique_prefixes.items", "if", "call:oid.startswith", "call:set(modules).issuperset",
    "if", "return:value", "call:json.dumps", "call:order"] := rfl

/-- MibCompiler.buildIndex (pysmi/compiler.py) -/
theorem pin_buildIndex : buildIndex = [
    "call:self._get_system_info", "call:time.asctime", "call:sys.version.split", "call:self._writer.putData",
    "call:self._codegen.genIndex", "call:self._writer.getData", "call:options.get", "except:error.PySmiError",
    "call:sys.exc_info", "if", "call:options.get", "return", "if", "raise:exc.with_traceback",
    "call:exc.with_traceback", "raise:exc"] := rfl

end Pysmi.Pins.SkelC18
