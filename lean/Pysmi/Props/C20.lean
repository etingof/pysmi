import Pysmi.Model.Cli
import Pysmi.Generated.Cli
/-!
# C20 — command-line tools report and leave on disk exactly what happened

* `C20_exit`: mibdump's exit code is `EX_OK` iff no module of the status map is `missing` or `failed` (the codes are
  regenerated from the script and pinned: 0 / 64 / 70 / 79 / 79).
* `C20_report`: a module is listed under a category iff the status map gives it that status; with distinct keys no module
  is listed twice.
* `C20_mibcopy_latest`: after the copy loop, for every source file seen the destination holds that module with a revision at
  least as new; `C20_mibcopy_provenance`: what the destination holds is what it held before or one of the files seen;
  `C20_mibcopy_order_irrelevant`: the revision finally stored for every module is the same for every visiting order.
* `C20_revision_latest`, `C20_revision_order_irrelevant`: the revision of a module is the latest of its REVISION clauses. What
  `mibcopy` ends up with for a module is the same running maximum (`upd`), over what the destination had and the sources
  seen (`mibcopy_val`), so `C20_mibcopy_latest` and `C20_mibcopy_order_irrelevant` are read off them.
* `C20_mibcopy_epoch_witness`: the script before its repair (an absent destination compared as the epoch) never copies a
  module without a REVISION clause into an empty destination.

That the files on disk are the modules reported created or borrowed is `C07_written_iff_reported_partial` + `C13_atomic` /
`C13_dryrun` for the library; for the scripts it is checked by running them as subprocesses (option parsing and wiring are
exercised, not modelled: partial).
-/
namespace Pysmi.Cli
open Pysmi.Compile (Status)

theorem C20_exit (ex : ExitCodes) (h1 : ex.missing ≠ ex.ok) (h2 : ex.failed ≠ ex.ok) (p : StatusMap) :
    mibdumpExit ex p = ex.ok ↔ (∀ e ∈ p, e.2 ≠ .missing ∧ e.2 ≠ .failed) := by
  have hany : ∀ s : Status, p.any (·.2 = s) = false ↔ ∀ e ∈ p, e.2 ≠ s := fun s => by
    simp only [List.any_eq_false, decide_eq_true_eq, ne_eq]
  -- the code is a function of two booleans: is a module missing, has one failed
  simp only [imp_and, forall_and, ← hany, mibdumpExit]
  cases p.any (·.2 = .missing) <;> cases p.any (·.2 = .failed) <;> simp [h1, h2]

theorem mibdumpRun_eq (ex : ExitCodes) (noIndex : List String) (buildIndex : Bool) (fmt : String) (p : StatusMap) :
    mibdumpRun ex noIndex buildIndex fmt p =
      if buildIndex = true ∧ fmt ∈ noIndex then (ex.usage, false) else (mibdumpExit ex p, true) := by
  simp [mibdumpRun]

theorem C20_report (p : StatusMap) (s : Status) (n : String) : n ∈ category p s ↔ (n, s) ∈ p := by
  simp [category, (List.mergeSort_perm _ _).mem_iff]

theorem C20_report_once (p : StatusMap) (hk : ∀ n s s', (n, s) ∈ p → (n, s') ∈ p → s = s') (s s' : Status) (n : String)
    (h1 : n ∈ category p s) (h2 : n ∈ category p s') : s = s' :=
  hk n s s' ((C20_report p s n).mp h1) ((C20_report p s' n).mp h2)

theorem moduleRevision_eq_max? (revs : List Nat) : moduleRevision revs = revs.max? := by
  cases revs <;> rfl

/-- **C20_revision_latest**: the revision reported for a module is one of its REVISION clauses and no clause is later -
whatever the order of the clauses (before repair of `genModuleIdentity` it was the clause written first, so an edition that
lists its history oldest first counted as old as its first revision); without a clause there is none. -/
theorem C20_revision_latest (revs : List Nat) :
    (revs = [] → moduleRevision revs = none) ∧
    (∀ m, moduleRevision revs = some m → m ∈ revs ∧ ∀ r ∈ revs, r ≤ m) ∧
    (revs ≠ [] → ∃ m, moduleRevision revs = some m) := by
  rw [moduleRevision_eq_max?]
  exact ⟨List.max?_eq_none_iff.mpr, fun _ => List.max?_eq_some_iff.mp,
    fun h => Option.isSome_iff_exists.mp (List.isSome_max?_of_ne_nil h)⟩

/-- **C20_revision_order_irrelevant**: two modules that carry the same REVISION clauses in different orders have the same
revision - so which of two editions `mibcopy` keeps does not depend on how either writes its history. -/
theorem C20_revision_order_irrelevant (a b : List Nat) (h : a.Perm b) : moduleRevision a = moduleRevision b := by
  rw [moduleRevision_eq_max?, moduleRevision_eq_max?]
  -- the greatest element of a list is the greatest element of any rearrangement
  exact Option.ext fun m => by simp only [List.max?_eq_some_iff, h.mem_iff]

/-- **C20_later_edition_newer**: an edition that carries the clauses of an earlier edition (in any order, anywhere) and one
clause later than all of them has exactly that clause as its revision - it is the newer of the two for `mibcopy`, however it
writes its history. -/
theorem C20_later_edition_newer (old new : List Nat) (r : Nat) (hp : new.Perm (r :: old)) (hr : ∀ x ∈ old, x < r) :
    moduleRevision new = some r ∧ ∀ m, moduleRevision old = some m → m < r := by
  simp only [moduleRevision_eq_max?, List.max?_eq_some_iff]
  refine ⟨⟨hp.mem_iff.mpr List.mem_cons_self, fun b hb => ?_⟩, fun m hm => hr m hm.1⟩
  rcases List.mem_cons.mp (hp.mem_iff.mp hb) with rfl | hb
  · exact Nat.le_refl _
  · exact Nat.le_of_lt (hr b hb)

/-- an edition that lists its history oldest first is as new as its last clause -/
example : moduleRevision [200001010000, 201001010000] = some 201001010000 := by decide
example : moduleRevision [201001010000, 200001010000] = some 201001010000 := by decide

/-! #### `List.lookup` after `(n, v) :: d.filter (·.1 != n)`, the dictionary update of `setDst` and `setCache` -/

theorem lookup_filter_ne {β : Type} {d : List (String × β)} {n n' : String} (h : n' ≠ n) :
    (d.filter (fun e => e.1 != n)).lookup n' = d.lookup n' := by
  induction d with
  | nil => rfl
  | cons e rest ih =>
    obtain ⟨k, v⟩ := e
    by_cases hk : k = n
    · have : (n' == n) = false := by simpa using h
      simp [hk, List.lookup_cons, this, ih]
    · simp [hk, List.lookup_cons, ih]

theorem lookup_cons_filter {β : Type} (d : List (String × β)) (n n' : String) (v : β) :
    ((n, v) :: d.filter (fun e => e.1 != n)).lookup n' = if n' = n then some v else d.lookup n' := by
  by_cases h : n' = n
  · simp [h]
  · have : (n' == n) = false := by simpa using h
    simp [List.lookup_cons, this, h, lookup_filter_ne h]

theorem lookupDst_setDst (d : List (String × Rev × Nat)) (n n' : String) (v : Rev × Nat) :
    lookupDst (setDst d n v) n' = if n' = n then some v else lookupDst d n' := lookup_cons_filter d n n' v

theorem lookup_setCache (c : List (String × Option Nat)) (n n' : String) (v : Option Nat) :
    (setCache c n v).lookup n' = if n' = n then some v else c.lookup n' := lookup_cons_filter c n n' v

/-- the revision value the destination holds for a module -/
def val (d : List (String × Rev × Nat)) (n : String) : Option Nat := (lookupDst d n).map (fun v => revValue v.1)

theorem val_setDst (d : List (String × Rev × Nat)) (n n' : String) (v : Rev × Nat) :
    val (setDst d n v) n' = if n' = n then some (revValue v.1) else val d n' := by
  unfold val; rw [lookupDst_setDst]; split <;> rfl

theorem copyStep_dst (a : Bool) (st : CopyState) (s : Src) :
    (copyStep a st s).dst =
      if skipTest a (dstRevOf st s.name) (revValue s.rev) then st.dst else setDst st.dst s.name (s.rev, s.file) := by
  unfold copyStep; split <;> rfl

theorem copyStep_cache_lookup (a : Bool) (st : CopyState) (s : Src) (n : String) :
    (copyStep a st s).cache.lookup n =
      if n = s.name then
        some (if skipTest a (dstRevOf st s.name) (revValue s.rev) then dstRevOf st s.name else some (revValue s.rev))
      else st.cache.lookup n := by
  have hl : (cacheLooked st s.name (dstRevOf st s.name)).lookup n =
      if n = s.name then some (dstRevOf st s.name) else st.cache.lookup n := by
    unfold cacheLooked dstRevOf
    cases hc : st.cache.lookup s.name with
    | some r =>
      simp only
      split
      · next hn => rw [hn, hc]
      · rfl
    | none => exact lookup_setCache _ _ _ _
  unfold copyStep
  split
  · exact hl
  · show (setCache _ _ _).lookup n = _
    rw [lookup_setCache, hl]; split <;> rfl

theorem copyStep_cache_congr (a : Bool) {st st' : CopyState} (s : Src) (hc : st.cache = st'.cache)
    (hr : dstRevOf st s.name = dstRevOf st' s.name) : (copyStep a st s).cache = (copyStep a st' s).cache := by
  unfold copyStep cacheLooked; rw [hr, hc]; split <;> rfl

/-- the dry step is the real one without the copy -/
theorem copyStepDry_eq (a : Bool) (st : CopyState) (s : Src) :
    copyStepDry a st s = { dst := st.dst, cache := (copyStep a st s).cache } := by
  unfold copyStepDry copyStep; split <;> rfl

/-- the copy step as a function of the destination alone (what `copyStep true` does when the cache mirrors the destination) -/
def copyStep' (d : List (String × Rev × Nat)) (s : Src) : List (String × Rev × Nat) :=
  if skipTest true (val d s.name) (revValue s.rev) then d else setDst d s.name (s.rev, s.file)

/-- the script's cache never disagrees with the destination -/
def CacheOk (st : CopyState) : Prop := ∀ n r, st.cache.lookup n = some r → r = val st.dst n

theorem dstRevOf_eq {st : CopyState} (h : CacheOk st) (n : String) : dstRevOf st n = val st.dst n := by
  unfold dstRevOf
  cases hc : st.cache.lookup n with
  | some r => exact h _ _ hc
  | none => rfl

/-- the latest revision so far, and one more revision -/
def upd (acc : Option Nat) (x : Nat) : Option Nat := some (match acc with | none => x | some r => max r x)

theorem foldl_upd_some (rs : List Nat) (r : Nat) : rs.foldl upd (some r) = some (rs.foldl max r) := by
  induction rs generalizing r with
  | nil => rfl
  | cons a rs ih => exact ih (max r a)

/-- running `upd` over a list gives the revision of the module with these clauses, what was there before counting as one -/
theorem foldl_upd_eq (acc : Option Nat) (l : List Nat) : l.foldl upd acc = moduleRevision (acc.toList ++ l) := by
  cases acc with
  | some r => exact foldl_upd_some l r
  | none =>
    cases l with
    | nil => rfl
    | cons r rs => exact foldl_upd_some rs r

/-- the script's test against the stored revision keeps the later of the two -/
theorem upd_eq (v : Option Nat) (x : Nat) : upd v x = if skipTest true v x then v else some x := by
  cases v with
  | none => rfl
  | some r =>
    by_cases h : x ≤ r
    · simp [upd, skipTest, h, Nat.max_eq_left h]
    · simp [upd, skipTest, h, Nat.max_eq_right (Nat.le_of_not_ge h)]

theorem val_copyStep' (d : List (String × Rev × Nat)) (s : Src) (n : String) :
    val (copyStep' d s) n = if s.name = n then upd (val d n) (revValue s.rev) else val d n := by
  unfold copyStep'
  split
  · split
    · next hs hn => rw [upd_eq, ← hn, if_pos hs]
    · rfl
  · rw [val_setDst]
    split
    · next hs hn => rw [if_pos hn.symm, upd_eq, hn, if_neg hs]
    · next hn => rw [if_neg (Ne.symm hn)]

theorem copyStep_eq {st : CopyState} (s : Src) (h : CacheOk st) :
    (copyStep true st s).dst = copyStep' st.dst s ∧ CacheOk (copyStep true st s) := by
  have hd : (copyStep true st s).dst = copyStep' st.dst s := by rw [copyStep_dst, dstRevOf_eq h]; rfl
  refine ⟨hd, fun n r hl => ?_⟩
  rw [copyStep_cache_lookup, dstRevOf_eq h, ← upd_eq] at hl
  rw [hd, val_copyStep']
  split at hl
  · next hn => rw [if_pos hn.symm, hn]; exact (Option.some.inj hl).symm
  · next hn => rw [if_neg (Ne.symm hn)]; exact h n r hl

theorem mibcopy_dst (d0 : List (String × Rev × Nat)) (srcs : List Src) :
    (mibcopy true d0 srcs).dst = srcs.foldl copyStep' d0 :=
  (List.foldl_rel (r := fun st d => st.dst = d ∧ CacheOk st) ⟨rfl, fun n r h => by simp at h⟩
    fun s _ _ _ ⟨hd, hc⟩ => hd ▸ copyStep_eq s hc).1

theorem val_fold (srcs : List Src) (d : List (String × Rev × Nat)) (n : String) :
    val (srcs.foldl copyStep' d) n = ((srcs.filter (·.name = n)).map (fun s => revValue s.rev)).foldl upd (val d n) := by
  induction srcs generalizing d with
  | nil => rfl
  | cons s rest ih =>
    rw [List.foldl_cons, ih, val_copyStep', List.filter_cons]
    split <;> simp [*]

/-- for each module, `mibcopy` computes the revision of a module whose clauses are the revision the destination had and
those of the sources seen -/
theorem mibcopy_val (d0 : List (String × Rev × Nat)) (srcs : List Src) (n : String) :
    val (mibcopy true d0 srcs).dst n =
      moduleRevision ((val d0 n).toList ++ (srcs.filter (·.name = n)).map (fun s => revValue s.rev)) := by
  rw [mibcopy_dst, val_fold, foldl_upd_eq]

theorem C20_mibcopy_order_irrelevant (d0 : List (String × Rev × Nat)) (srcs srcs' : List Src) (hp : srcs.Perm srcs') (n : String) :
    val (mibcopy true d0 srcs).dst n = val (mibcopy true d0 srcs').dst n := by
  rw [mibcopy_val, mibcopy_val]
  exact C20_revision_order_irrelevant _ _ (((hp.filter _).map _).append_left _)

theorem C20_mibcopy_latest (d0 : List (String × Rev × Nat)) (srcs : List Src) (s : Src) (hs : s ∈ srcs) :
    ∃ r, val (mibcopy true d0 srcs).dst s.name = some r ∧ r ≥ revValue s.rev := by
  rw [mibcopy_val]
  have hmem : revValue s.rev ∈ (val d0 s.name).toList ++ (srcs.filter (·.name = s.name)).map (fun s => revValue s.rev) :=
    List.mem_append_right _ (List.mem_map_of_mem (List.mem_filter.mpr ⟨hs, by simp⟩))
  obtain ⟨_, h2, h3⟩ := C20_revision_latest _
  obtain ⟨m, hm⟩ := h3 (List.ne_nil_of_mem hmem)
  exact ⟨m, hm, (h2 m hm).2 _ hmem⟩

theorem lookupDst_copyStep' (d : List (String × Rev × Nat)) (s : Src) (n : String) :
    lookupDst (copyStep' d s) n = lookupDst d n ∨ (s.name = n ∧ lookupDst (copyStep' d s) n = some (s.rev, s.file)) := by
  unfold copyStep'
  split
  · exact .inl rfl
  · rw [lookupDst_setDst]
    split
    · next hn => exact .inr ⟨hn.symm, rfl⟩
    · exact .inl rfl

theorem C20_mibcopy_provenance (srcs : List Src) : ∀ (d0 : List (String × Rev × Nat)) (n : String) (v : Rev × Nat),
    lookupDst (mibcopy true d0 srcs).dst n = some v →
    lookupDst d0 n = some v ∨ ∃ s ∈ srcs, s.name = n ∧ v = (s.rev, s.file) := by
  intro d0 n v
  rw [mibcopy_dst]
  refine List.foldlRecOn (motive := fun d => lookupDst d n = some v → _) srcs copyStep' Or.inl fun d ih s hs h => ?_
  rcases lookupDst_copyStep' d s n with h1 | ⟨hn, h1⟩
  · exact ih (h1 ▸ h)
  · exact .inr ⟨s, hs, hn, Option.some.inj (h.symm.trans h1)⟩

/-- **C20_mibcopy_dry_run**: a dry run leaves the destination as it found it, whatever the sources and their order. -/
theorem C20_mibcopy_dry_run (a : Bool) (srcs : List Src) : ∀ (st : CopyState),
    (srcs.foldl (copyStepDry a) st).dst = st.dst :=
  fun st => List.foldlRecOn (motive := fun x => x.dst = st.dst) srcs (copyStepDry a) rfl
    fun x h s _ => (congrArg CopyState.dst (copyStepDry_eq a x s)).trans h

/-- what the dry run and the real run have in common: the script's revision cache, and - for every name the cache does not
hold yet - what the destination holds -/
def DrySim (real dry : CopyState) : Prop :=
  real.cache = dry.cache ∧ ∀ n, dry.cache.lookup n = none → lookupDst real.dst n = lookupDst dry.dst n

theorem dstRevOf_sim {real dry : CopyState} (h : DrySim real dry) (n : String) : dstRevOf real n = dstRevOf dry n := by
  unfold dstRevOf
  rw [h.1]
  cases hc : dry.cache.lookup n with
  | some r => rfl
  | none => simp only; rw [h.2 n hc]

theorem drySim_step (a : Bool) {real dry : CopyState} (s : Src) (h : DrySim real dry) :
    DrySim (copyStep a real s) (copyStepDry a dry s) := by
  rw [copyStepDry_eq]
  refine ⟨copyStep_cache_congr a s h.1 (dstRevOf_sim h s.name), fun n hn => ?_⟩
  -- a name the cache does not hold after the step is not the step's, and was not held before
  simp only [copyStep_cache_lookup] at hn
  split at hn
  · cases hn
  · next hne =>
    rw [copyStep_dst]
    split
    · exact h.2 n hn
    · rw [lookupDst_setDst, if_neg hne]; exact h.2 n hn

/-- **C20_mibcopy_dry_report**: every decision of a dry run (copy / do not copy, hence every COPIED / NOT COPIED line of the
report) is the decision the real run takes at that point: the revision caches of the two runs are equal after any prefix of
the sources. -/
theorem C20_mibcopy_dry_report (a : Bool) (srcs : List Src) : ∀ (real dry : CopyState), DrySim real dry →
    DrySim (srcs.foldl (copyStep a) real) (srcs.foldl (copyStepDry a) dry) :=
  fun _ _ h => List.foldl_rel h fun s _ _ _ h => drySim_step a s h

theorem C20_mibcopy_dry (a : Bool) (dst : List (String × Rev × Nat)) (srcs : List Src) :
    (mibcopyDry a dst srcs).dst = dst ∧ (mibcopyDry a dst srcs).cache = (mibcopy a dst srcs).cache :=
  ⟨C20_mibcopy_dry_run a srcs _,
   (C20_mibcopy_dry_report a srcs { dst := dst, cache := [] } { dst := dst, cache := [] } ⟨rfl, fun _ _ => rfl⟩).1.symm⟩

example : (mibcopyDry true [] [⟨"A", some 5, 1⟩, ⟨"A", some 3, 2⟩]).dst = [] ∧
    (mibcopyDry true [] [⟨"A", some 5, 1⟩, ⟨"A", some 3, 2⟩]).cache = [("A", some 5)] := by decide

/-- **C20_mibcopy_epoch_witness**: with an absent destination compared as the epoch (the script before its repair), a module
without a REVISION clause is never copied into an empty destination; with the repaired comparison (`pin_absent_revision`) it
is. -/
theorem C20_mibcopy_epoch_witness :
    (mibcopy false [] [⟨"A-MIB", none, 1⟩]).dst = [] ∧ (mibcopy true [] [⟨"A-MIB", none, 1⟩]).dst = [("A-MIB", none, 1)] := by
  decide

theorem borrowerFlavours_append (pre post : List Opt) (f : Bool) :
    borrowerFlavours (pre ++ post) f = borrowerFlavours pre f ++ borrowerFlavours post (f || pre.any Opt.isGen) := by
  induction pre generalizing f with
  | nil => simp [borrowerFlavours]
  | cons o rest ih =>
    cases o <;> simp [borrowerFlavours, ih, Opt.isGen]

/-- **C20_borrowers_in_order**: the repositories are filed in the order of the command line, none dropped, none added. -/
theorem C20_borrowers_in_order (os : List Opt) (f : Bool) :
    (borrowerFlavours os f).map (·.1) = os.filterMap (fun o => match o with | .borrower u => some u | _ => none) := by
  induction os generalizing f with
  | nil => rfl
  | cons o rest ih =>
    cases o <;> simp [borrowerFlavours, ih]

/-- **C20_borrower_flavour**: a repository holds copies with texts exactly when `--generate-mib-texts` stands before it on
the command line; it matches the request of the run (and may deliver) exactly when no `--generate-mib-texts` follows it
without one preceding it. -/
theorem C20_borrower_flavour (pre post : List Opt) (u : String) :
    borrowerFlavours (pre ++ .borrower u :: post) false =
      borrowerFlavours pre false ++ (u, pre.any Opt.isGen) :: borrowerFlavours post (pre.any Opt.isGen) ∧
    ((pre.any Opt.isGen = requestFlavour (pre ++ .borrower u :: post)) ↔ (pre.any Opt.isGen = true ∨ post.any Opt.isGen = false)) := by
  constructor
  · rw [borrowerFlavours_append]
    simp [borrowerFlavours]
  · unfold requestFlavour
    simp only [List.any_append, List.any_cons, Opt.isGen, Bool.false_or]
    cases pre.any Opt.isGen <;> cases post.any Opt.isGen <;> simp

/-- `--mib-borrower=A --generate-mib-texts --mib-borrower=B`: A is a no-texts repository and is passed over, B delivers -/
example : borrowerFlavours [.borrower "A", .genTexts, .borrower "B"] false = [("A", false), ("B", true)] ∧
    requestFlavour [.borrower "A", .genTexts, .borrower "B"] = true := by decide

end Pysmi.Cli

namespace Pysmi.Generated.Cli

/-- the exit codes as the model was written against -/
theorem pin_exit_codes : (EX_OK, EX_USAGE, EX_SOFTWARE, EX_MIB_MISSING, EX_MIB_FAILED) = (0, 64, 70, 79, 79) := rfl

/-- the copy loop compares an absent destination as older than everything (`absentIsOlder = true` in the model) -/
theorem pin_absent_revision : mibcopyAbsentRevision = "datetime.min" := rfl

def codes : Pysmi.Cli.ExitCodes := ⟨EX_OK, EX_USAGE, EX_SOFTWARE, EX_MIB_MISSING, EX_MIB_FAILED⟩

/-- **C20_exit_generated**: with the regenerated codes, exit status 0 iff nothing is missing or failed -/
theorem C20_exit_generated (p : Pysmi.Cli.StatusMap) :
    Pysmi.Cli.mibdumpExit codes p = 0 ↔ (∀ e ∈ p, e.2 ≠ .missing ∧ e.2 ≠ .failed) :=
  Pysmi.Cli.C20_exit codes (by decide) (by decide) p

/-- **C20_index_guard**: every destination format the script accepts either has a code generator that implements
`genIndex`, or `--build-index` is refused for it as a usage error (tables regenerated from the script and the generator
classes on every run) -/
theorem C20_index_guard : ∀ f ∈ mibdumpFormats, f ∈ genIndexFormats ∨ f ∈ mibdumpNoIndexFormats := by decide

/-- with the regenerated tables: `--build-index` for the pysnmp format ends with the usage status and compiles nothing;
every other combination ends with status 0 iff nothing is missing or failed -/
theorem C20_run_generated (buildIndex : Bool) (fmt : String) (p : Pysmi.Cli.StatusMap) :
    (buildIndex = true ∧ fmt ∈ mibdumpNoIndexFormats →
      Pysmi.Cli.mibdumpRun codes mibdumpNoIndexFormats buildIndex fmt p = (64, false)) ∧
    (¬ (buildIndex = true ∧ fmt ∈ mibdumpNoIndexFormats) →
      ((Pysmi.Cli.mibdumpRun codes mibdumpNoIndexFormats buildIndex fmt p).1 = 0 ↔
        (∀ e ∈ p, e.2 ≠ .missing ∧ e.2 ≠ .failed))) := by
  rw [Pysmi.Cli.mibdumpRun_eq]
  exact ⟨fun h => by rw [if_pos h]; rfl, fun h => by rw [if_neg h]; exact C20_exit_generated p⟩

end Pysmi.Generated.Cli
