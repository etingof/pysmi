import Pysmi.Generated.Skeletons
/-!
# Pins (C04): the control skeletons the hand-written models and oracles were written against

`Generated/Skeletons.lean` is rewritten from the source on every run (calls other than logging, string plumbing and pure
builtins, raises with their exception class, returns, loops, branches, handlers - in source order; for the scripts also the
exit status of every `sys.exit`).  A structural change of one of these methods breaks its pin - which is not by itself a
violation: the check then searches model and code for a failing input and reports what it finds.
(Literals written by harness/tools/repin.py when the models were last brought in line with the source.)
-/
namespace Pysmi.Pins.SkelC04
open Pysmi.Generated.Skeletons

/-- PySnmpCodeGen.genCode (pysmi/codegen/pysnmp.py) -/
theorem pin_pysnmpGenCode : pysnmpGenCode = [
    "call:IntermediateCodeGen.genCode", "loop", "call:context.get", "call:context.get('imports', {}).items", "if",
    "loop", "if", "call:imports[module].extend", "call:imports[module].append", "loop", "call:dct.items", "if",
    "call:translateOids", "if", "call:value.split", "call:translateOids", "loop", "call:context.items",
    "call:x[1].get", "call:os.path.dirname", "call:kwargs.get", "if", "call:searchPath.insert",
    "call:os.path.dirname", "call:os.path.abspath", "call:jinja2.Environment", "call:jinja2.FileSystemLoader",
    "call:env.get_template", "call:tmpl.render", "except:jinja2.exceptions.TemplateError", "call:sys.exc_info",
    "raise:error.PySmiCodegenError", "call:error.PySmiCodegenError", "return:value"] := rfl

end Pysmi.Pins.SkelC04
