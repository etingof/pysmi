import Pysmi.Lemmas.Symtab
import Pysmi.Lemmas.Except
import Pysmi.Lemmas.List
/-!
# C03 / C01 — the symbol table holds exactly the declared symbols, whatever their order

* `C03_order_is_perm`: whenever the symbol pass succeeds, `_symtable_order` (the list the JSON and
  pysnmp documents are emitted from) is a duplicate-free rearrangement of the declared symbol
  names: nothing dropped, nothing duplicated — for any number and mix of declarations.
* `C01_success_characterised`: the pass succeeds **iff** the declared names are distinct and every
  declaration is *derivable* (its parents are imported/base symbols, row types of some table of the
  module, or derivable declarations). The right-hand side does not mention the order of the
  declarations, hence
* `C01_order_irrelevant_success`: permuting the declarations changes neither success nor failure.
  (False for the code before commit dfb1bd2 — `C01_single_pass_witness`.)
-/
namespace Pysmi.Symtab

/-- all rows any declaration of the module adds -/
def allRows (decls : List Decl) : List Name := decls.flatMap (·.addsRows)

/-- a parent that exists from the start or is a row type of some table of the module -/
def Base (avail : Name → Bool) (decls : List Decl) (p : Name) : Prop := avail p = true ∨ p ∈ allRows decls

instance (avail : Name → Bool) (decls : List Decl) (p : Name) : Decidable (Base avail decls p) := by
  unfold Base; infer_instance

/-- a declared symbol that can eventually be registered: each of its parents is a base symbol or
itself a derivable declaration -/
inductive Derivable (avail : Name → Bool) (decls : List Decl) : Name → Prop
  | intro (d : Decl) : d ∈ decls →
      (∀ p ∈ d.parents, ¬ Base avail decls p → Derivable avail decls p) → Derivable avail decls d.name

/-- only table declarations add rows, and they wait for nothing that is not there from the start
(`MibTable`) -/
def WF (avail : Name → Bool) (decls : List Decl) : Prop :=
  ∀ d ∈ decls, d.addsRows ≠ [] → ∀ p ∈ d.parents, avail p = true

structure Inv (avail : Name → Bool) (all : List Decl) (done : List Decl) (s : St) : Prop where
  perm : (s.out ++ names s.postponed).Perm (names done)
  nodup : (s.out ++ names s.postponed).Nodup
  stable : ∀ d ∈ s.postponed, allParents avail s.out s.rows d.parents = false
  rows : s.rows = allRows done
  postSub : ∀ d ∈ s.postponed, d ∈ done
  just : ∀ n ∈ s.out, Derivable avail all n

theorem derivable_snoc {avail : Name → Bool} {all : List Decl} {d : Decl} (hd : d ∈ all)
    {o rows : List Name} (hr : ∀ x ∈ rows, x ∈ allRows all) (h : allParents avail o rows d.parents = true)
    (ho : ∀ n ∈ o, Derivable avail all n) : ∀ n ∈ o ++ [d.name], Derivable avail all n := by
  refine List.forall_mem_append.mpr ⟨ho, List.forall_mem_singleton.mpr (.intro d hd fun p hp hnb => ?_)⟩
  exact ho p ((allParents_iff.mp h p hp).resolve_right fun hb => hnb (hb.imp_right (hr p)))

theorem allRows_sub {done all : List Decl} (h : ∀ d ∈ done, d ∈ all) : ∀ x ∈ allRows done, x ∈ allRows all := by
  intro x hx
  simp only [allRows, List.mem_flatMap] at hx ⊢
  obtain ⟨d, hd, hx⟩ := hx
  exact ⟨d, h d hd, hx⟩

/-- the output of a successful run is built from nothing by appending names of declarations whose parents are all
there: imported or base symbols, row types of the module, or names appended before -/
theorem regAll_out_induct {avail : Name → Bool} {decls : List Decl} {s : St} (h : regAll avail decls {} = .ok s)
    {Q : List Name → Prop} (h0 : Q [])
    (step : ∀ o d, d ∈ decls → allParents avail o (allRows decls) d.parents = true → Q o → Q (o ++ [d.name])) :
    Q s.out := by
  refine (regAll_induct (decls := decls)
    (P := fun _ s => (∀ x ∈ s.rows, x ∈ allRows decls) ∧ (∀ x ∈ s.postponed, x ∈ decls) ∧ Q s.out)
    (fun done d s s1 hdone ⟨hrows, hpost, hQ⟩ hs => ?_) ⟨by simp, by simp, h0⟩ h).2.2
  have hd : d ∈ decls := hdone d (by simp)
  have hrows1 : ∀ x ∈ s1.rows, x ∈ allRows decls := fun x hx =>
    (List.mem_append.mp ((regDecl_cases hs).2.1 ▸ hx)).elim (hrows x) fun hx => List.mem_flatMap.mpr ⟨d, hd, hx⟩
  exact ⟨hrows1, regDecl_out_induct hs
    (fun x hx => (List.mem_append.mp hx).elim (hpost x) fun hx => List.mem_singleton.mp hx ▸ hd)
    (fun o x hx hp => step o x hx (allParents_mono_rows hp hrows1)) hQ⟩

theorem perm_regDecl {avail : Name → Bool} {s s' : St} {d : Decl} {done : List Decl}
    (h : regDecl avail s d = .ok s') (hperm : (s.out ++ names s.postponed).Perm (names done))
    (hnd : (names done).Nodup) :
    (s'.out ++ names s'.postponed).Perm (names (done ++ [d])) ∧ (names (done ++ [d])).Nodup := by
  refine ⟨regDecl_induct h (P := fun o p => (o ++ names p).Perm (names (done ++ [d])))
    (fun o pre x suf _ hP => perm_move.trans hP)
    (by simp only [names_append, ← List.append_assoc]; exact hperm.append_right _), ?_⟩
  rw [names_append, List.nodup_append]
  refine ⟨hnd, List.pairwise_singleton _ _, fun a ha b hb hab => ?_⟩
  obtain rfl : b = d.name := List.mem_singleton.mp hb
  exact (regDecl_cases h).1 (hperm.symm.subset (hab ▸ ha))

theorem inv_regDecl (avail : Name → Bool) (all done : List Decl) (s s' : St) (d : Decl)
    (hwf : d.addsRows ≠ [] → ∀ p ∈ d.parents, avail p = true) (hdone : ∀ x ∈ done ++ [d], x ∈ all)
    (hinv : Inv avail all done s) (h : regDecl avail s d = .ok s') : Inv avail all (done ++ [d]) s' := by
  obtain ⟨-, hrows, hcase⟩ := regDecl_cases h
  have hrows' : s'.rows = allRows (done ++ [d]) := by simp [hrows, allRows, hinv.rows]
  obtain ⟨hperm, hnd⟩ := perm_regDecl h hinv.perm (hinv.perm.nodup_iff.mp hinv.nodup)
  obtain ⟨hpost, hjust⟩ := regDecl_out_induct h (all := done ++ [d]) (Q := fun o => ∀ n ∈ o, Derivable avail all n)
    (fun x hx => List.mem_append.mpr ((List.mem_append.mp hx).imp_left (hinv.postSub x)))
    (fun o x hx => derivable_snoc (hdone x hx) (hrows' ▸ allRows_sub hdone)) hinv.just
  refine ⟨hperm, hperm.nodup_iff.mpr hnd, ?_, hrows', hpost, hjust⟩
  split at hcase
  · have := fixpoint_stable avail s'.rows _ s.postponed (s.out ++ [d.name]) (Nat.lt_succ_self _)
    rwa [← hcase] at this
  · -- a postponed declaration adds no rows (WF), so nothing else became registrable
    rename_i hp
    have hadd : d.addsRows = [] := Decidable.byContradiction fun he =>
      hp (allParents_iff.mpr fun p hpp => .inr (.inl (hwf he p hpp)))
    rw [hrows, hadd, List.append_nil] at hp ⊢
    rw [hcase.1, hcase.2]
    exact List.forall_mem_append.mpr ⟨hinv.stable, List.forall_mem_singleton.mpr (by simpa using hp)⟩

theorem inv_regAll {avail : Name → Bool} {all : List Decl} (hwf : WF avail all) {s : St}
    (h : regAll avail all {} = .ok s) : Inv avail all all s :=
  regAll_induct (P := Inv avail all)
    (fun done d s s1 hdone hinv hs => inv_regDecl avail all done s s1 d (hwf d (hdone d (by simp))) hdone hinv hs)
    ⟨by simp [names], by simp [names], by simp, by simp [allRows], by simp, by simp⟩ h

/-- `C03_order_is_perm` holds without `WF` -/
theorem order_is_perm {avail : Name → Bool} {decls : List Decl} {order : List Name}
    (h : run avail decls = .ok order) : order.Perm (names decls) ∧ order.Nodup := by
  obtain ⟨s, hs, hemp, rfl⟩ := run_ok_iff.mp h
  obtain ⟨hp, hn⟩ := regAll_induct
    (P := fun done s => (s.out ++ names s.postponed).Perm (names done) ∧ (names done).Nodup)
    (fun done d s s1 _ hP hs => perm_regDecl hs hP.1 hP.2) ⟨.refl _, .nil⟩ hs
  rw [hemp, names, List.map_nil, List.append_nil] at hp
  exact ⟨hp, hp.nodup_iff.mpr hn⟩

/-- **C03_order_is_perm**: on success the emission order is a duplicate-free permutation of the
declared names. -/
theorem C03_order_is_perm (avail : Name → Bool) (decls : List Decl) (hwf : WF avail decls) (order : List Name)
    (h : run avail decls = .ok order) : order.Perm (names decls) ∧ order.Nodup :=
  order_is_perm h

theorem regAll_ok (avail : Name → Bool) (rest done : List Decl) (s : St) (hnd : (names (done ++ rest)).Nodup)
    (hperm : (s.out ++ names s.postponed).Perm (names done)) : ∃ s', regAll avail rest s = .ok s' := by
  induction rest generalizing done s with
  | nil => exact ⟨s, rfl⟩
  | cons d rest ih =>
    rw [List.append_cons] at hnd
    have hnd' := hnd
    rw [names_append, List.nodup_append, names_append, List.nodup_append] at hnd'
    have hfresh : d.name ∉ s.out ++ names s.postponed := fun hm =>
      hnd'.1.2.2 _ (hperm.subset hm) _ (mem_names (List.mem_singleton_self d)) rfl
    obtain ⟨s1, hs1⟩ := regDecl_ok avail hfresh
    obtain ⟨s', hs'⟩ := ih (done ++ [d]) s1 hnd (perm_regDecl hs1 hperm hnd'.1.1).1
    exact ⟨s', by simp [regAll, hs1, hs']⟩

/-- on success the declared names are distinct and every declaration is derivable (`WF` is not needed for this half) -/
theorem derivable_of_run_ok {avail : Name → Bool} {decls : List Decl} {order : List Name}
    (h : run avail decls = .ok order) : (names decls).Nodup ∧ ∀ d ∈ decls, Derivable avail decls d.name := by
  obtain ⟨hp, hn⟩ := order_is_perm h
  obtain ⟨s, hs, -, rfl⟩ := run_ok_iff.mp h
  have hj := regAll_out_induct hs (Q := fun o => ∀ n ∈ o, Derivable avail decls n) (by simp)
    fun o d hd => derivable_snoc hd fun _ h => h
  exact ⟨hp.nodup_iff.mp hn, fun d hd => hj d.name (hp.symm.subset (mem_names hd))⟩

theorem run_ok_of_derivable {avail : Name → Bool} {decls : List Decl} (hwf : WF avail decls)
    (hnd : (names decls).Nodup) (hder : ∀ d ∈ decls, Derivable avail decls d.name) :
    ∃ order, run avail decls = .ok order := by
  obtain ⟨s, hs⟩ := regAll_ok avail decls [] {} hnd (.refl _)
  have hinv := inv_regAll hwf hs
  -- every derivable declared name has been registered: were it postponed, it would not be stable
  have hreg : ∀ n, Derivable avail decls n → n ∈ s.out := by
    intro n hn
    induction hn with
    | intro d hd _ ih =>
      have hpar : allParents avail s.out s.rows d.parents = true :=
        allParents_iff.mpr fun p hp =>
          if hb : Base avail decls p then .inr (hinv.rows ▸ hb) else .inl (ih p hp hb)
      refine (List.mem_append.mp (hinv.perm.symm.subset (mem_names hd))).resolve_right fun h1 => ?_
      obtain ⟨d2, hd2, he⟩ := List.mem_map.mp h1
      obtain rfl := eq_of_nodup_map hnd (hinv.postSub d2 hd2) hd he
      rw [hinv.stable d2 hd2] at hpar; cases hpar
  have hemp : s.postponed = [] := List.eq_nil_iff_forall_not_mem.mpr fun d2 hd2 =>
    (List.nodup_append.mp hinv.nodup).2.2 _ (hreg d2.name (hder d2 (hinv.postSub d2 hd2))) _ (mem_names hd2) rfl
  exact ⟨s.out, run_ok_iff.mpr ⟨s, hs, hemp, rfl⟩⟩

/-- **C01_success_characterised**: the symbol pass succeeds exactly when the declared names are
distinct and every declaration is derivable — a condition that does not mention their order. -/
theorem C01_success_characterised (avail : Name → Bool) (decls : List Decl) (hwf : WF avail decls) :
    (∃ order, run avail decls = .ok order) ↔
      ((names decls).Nodup ∧ ∀ d ∈ decls, Derivable avail decls d.name) :=
  ⟨fun ⟨_, h⟩ => derivable_of_run_ok h, fun ⟨hnd, hder⟩ => run_ok_of_derivable hwf hnd hder⟩

theorem derivable_mono {avail : Name → Bool} {a b : List Decl} (hab : ∀ d ∈ a, d ∈ b) {n : Name}
    (h : Derivable avail a n) : Derivable avail b n := by
  induction h with
  | intro d hd _ ih =>
    exact .intro d (hab d hd) fun p hp hnb => ih p hp fun hb => hnb (hb.imp_right (allRows_sub hab p))

/-- **C01_order_irrelevant_success**: compiling the same declarations in any other order succeeds
exactly when the original order does. -/
theorem C01_order_irrelevant_success (avail : Name → Bool) (decls decls' : List Decl) (hp : decls.Perm decls')
    (hwf : WF avail decls) :
    (∃ order, run avail decls = .ok order) ↔ (∃ order, run avail decls' = .ok order) := by
  have key : ∀ {a b : List Decl}, a.Perm b → WF avail a → (∃ order, run avail a = .ok order) →
      ∃ order, run avail b = .ok order := by
    intro a b hp hwf h
    obtain ⟨h1, h2⟩ := (C01_success_characterised avail a hwf).mp h
    exact (C01_success_characterised avail b fun d hd => hwf d (hp.symm.subset hd)).mpr
      ⟨(hp.map _).nodup_iff.mp h1, fun d hd => derivable_mono (fun _ hx => hp.subset hx) (h2 d (hp.symm.subset hd))⟩
  exact ⟨key hp hwf, key hp.symm fun d hd => hwf d (hp.symm.subset hd)⟩

/-! ### the code before the fix: a single pass per registration -/

def regDeclOld (avail : Name → Bool) (s : St) (d : Decl) : Except Err St :=
  let rows := s.rows ++ d.addsRows
  if s.out.contains d.name || s.postponed.any (·.name == d.name) then .error (.duplicate d.name)
  else if allParents avail s.out rows d.parents then
    let r := pass avail rows s.postponed (s.out ++ [d.name])
    .ok { out := r.1, postponed := r.2.1, rows := rows }
  else .ok { s with postponed := s.postponed ++ [d], rows := rows }

def runOld (avail : Name → Bool) (decls : List Decl) : Except Err (List Name) :=
  match decls.foldlM (regDeclOld avail) {} with
  | .error e => .error e
  | .ok s => if s.postponed.isEmpty then .ok s.out else .error (.unknownParents (s.postponed.map (·.name)))

/-- **Witness (F9)**: `A ::= B`, `B ::= C`, `C ::= INTEGER` (names 1, 2, 3; 0 = a base type) fails
with the single-pass code and succeeds when reversed — and both orders succeed now. -/
theorem C01_single_pass_witness :
    runOld (· == 0) [⟨1, [2], []⟩, ⟨2, [3], []⟩, ⟨3, [0], []⟩] = .error (.unknownParents [1]) ∧
    runOld (· == 0) [⟨3, [0], []⟩, ⟨2, [3], []⟩, ⟨1, [2], []⟩] = .ok [3, 2, 1] ∧
    run (· == 0) [⟨1, [2], []⟩, ⟨2, [3], []⟩, ⟨3, [0], []⟩] = .ok [3, 2, 1] := by decide

/-- non-vacuity: a table, its row (forward reference to the row type) and an augmenting row -/
example : run (· == 0) [⟨10, [20], []⟩, ⟨11, [20, 10], []⟩, ⟨12, [0], [20]⟩] = .ok [12, 10, 11] := by decide
example : WF (· == 0) [⟨10, [20], []⟩, ⟨11, [20, 10], []⟩, ⟨12, [0], [20]⟩] := by
  intro d hd hr p hp
  simp at hd
  rcases hd with rfl | rfl | rfl <;> simp_all

end Pysmi.Symtab
