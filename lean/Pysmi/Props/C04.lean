import Pysmi.Model.Pysnmp
import Pysmi.Generated.Pysnmp
import Pysmi.Generated.Text
/-!
# C04 — pysnmp output is valid Python that loads and agrees with the JSON backend

What a theorem can carry here are the pure steps around the template:

* `C04_sort_perm`: sorting the records by OID loses and duplicates nothing;
* `C04_sort_sorted`: the result is ordered by OID (lexicographic tuple order);
* `C04_sort_stable`: two records whose keys are in order keep their relative position — in particular records without an OID
  (type assignments, TEXTUAL-CONVENTIONs: key `()`) stay in the dependency order computed by the symbol table, so a derived
  class is never rendered before its base;
* `C04_imports_expand`: the import expansion keeps every symbol that is not an SMI macro name and replaces a macro name by
  its pysnmp classes, in order;
* `C04_exported_classes` / `C04_export_filter_complete`: on the template and generator regenerated from the source, every
  record class the property names - and every class the intermediate generator can emit for a symbol - is in the export filter.

That the rendered text is valid Python and defines what the records say is checked by executing every generated module (runtime,
partial).
-/
namespace Pysmi.Pysnmp

theorem le_trans' (a b c : Rec) (h1 : le a b = true) (h2 : le b c = true) : le a c = true := by
  simp only [le, decide_eq_true_eq] at *
  exact List.le_trans h1 h2

theorem le_total' (a b : Rec) : (le a b || le b a) = true := by
  simp only [le, Bool.or_eq_true, decide_eq_true_eq]
  exact List.le_total _ _

theorem C04_sort_perm (l : List Rec) : (sortByOid l).Perm l := List.mergeSort_perm l le

theorem C04_sort_sorted (l : List Rec) : (sortByOid l).Pairwise (fun a b => key a ≤ key b) :=
  (List.pairwise_mergeSort le_trans' le_total' l).imp fun h => by simpa [le] using h

theorem C04_sort_stable (l : List Rec) (a b : Rec) (hk : key a ≤ key b) (h : [a, b].Sublist l) :
    [a, b].Sublist (sortByOid l) :=
  List.pair_sublist_mergeSort le_trans' le_total' (by simpa [le] using hk) h

/-- records without an OID keep their order -/
theorem C04_types_keep_dependency_order (l : List Rec) (a b : Rec) (ha : a.oid = none) (hb : b.oid = none)
    (h : [a, b].Sublist l) : [a, b].Sublist (sortByOid l) := by
  apply C04_sort_stable l a b _ h
  simp [key, ha, hb]

theorem C04_imports_expand (tbl : List (String × List String)) (symbols : List String) (s : String) (hs : s ∈ symbols) :
    (tbl.lookup s = none → s ∈ expandImports tbl symbols) ∧
    (∀ cls, tbl.lookup s = some cls → ∀ c ∈ cls, c ∈ expandImports tbl symbols) := by
  constructor
  · intro hn
    exact List.mem_flatMap.mpr ⟨s, hs, by simp [hn]⟩
  · intro cls hc c hm
    exact List.mem_flatMap.mpr ⟨s, hs, by simp [hc, hm]⟩

example : sortByOid [⟨"T2", none⟩, ⟨"b", some [1, 3, 2]⟩, ⟨"T1", none⟩, ⟨"a", some [1, 3]⟩] =
    [⟨"T2", none⟩, ⟨"T1", none⟩, ⟨"a", some [1, 3]⟩, ⟨"b", some [1, 3, 2]⟩] := by
  simp [sortByOid, List.mergeSort, List.merge, le, key]
  decide

end Pysmi.Pysnmp

namespace Pysmi.Generated.Pysnmp

/-- the record classes the property requires to be exported -/
def requiredClasses : List String := ["moduleidentity", "objecttype", "objectidentity", "notificationtype", "objectgroup",
  "notificationgroup", "modulecompliance", "agentcapabilities", "textualconvention", "type"]

theorem C04_exported_classes : ∀ c ∈ requiredClasses, c ∈ exportedClasses := by decide +kernel

/-- **C04_export_filter_complete**: every class the intermediate generator writes into a symbol record is exported -/
theorem C04_export_filter_complete : ∀ c ∈ emittedClasses, c ∈ exportedClasses := by decide +kernel

/-- SMI macro names -> pysnmp classes, as pinned -/
theorem pin_smiObjects : smiObjects = [
  ("MODULE-IDENTITY", ["ModuleIdentity"]), ("OBJECT-TYPE", ["MibScalar", "MibTable", "MibTableRow", "MibTableColumn"]),
  ("NOTIFICATION-TYPE", ["NotificationType"]), ("TEXTUAL-CONVENTION", ["TextualConvention"]),
  ("MODULE-COMPLIANCE", ["ModuleCompliance"]), ("OBJECT-GROUP", ["ObjectGroup"]), ("NOTIFICATION-GROUP", ["NotificationGroup"]),
  ("AGENT-CAPABILITIES", ["AgentCapabilities"]), ("OBJECT-IDENTITY", ["ObjectIdentity"]), ("TRAP-TYPE", ["NotificationType"]),
  ("BITS", ["Bits"])] := rfl

end Pysmi.Generated.Pysnmp

namespace Pysmi.Generated.Text

/-- which record key a setter of the generated module must be given -/
def setterKey : String → List String
  | "setStatus" => ["status"]
  | "setMaxAccess" => ["maxaccess"]
  | "setUnits" => ["units"]
  | "setDescription" => ["description"]
  | "setReference" => ["reference"]
  | "setObjects" => ["objects", "modulecompliance"]
  | "setIndexNames" => ["indices", "augmention"]
  | "setRevisions" => ["revisions"]
  | "setLastUpdated" => ["lastupdated"]
  | "setOrganization" => ["organization"]
  | "setContactInfo" => ["contactinfo"]
  | "setProductRelease" => ["productrelease"]
  | _ => []

/-- **C04_setter_keys**: every `set…()` call the template writes is given the record key of that meaning (status to
setStatus, maxaccess to setMaxAccess, …; the compliance list only in the MODULE-COMPLIANCE block) - decided on the call
sites extracted from the template on every run -/
theorem C04_setter_keys :
    pysnmpSetterSites.all (fun s => (setterKey s.2.1).contains s.2.2 &&
      (s.2.2 != "modulecompliance" || s.1 == "modulecompliance")) = true := by decide +kernel

/-- every block whose records carry a status / an access writes it -/
theorem C04_status_written :
    (["objecttype|objectidentity", "objectgroup", "notificationtype", "notificationgroup", "agentcapabilities", "modulecompliance"].all
      (fun c => pysnmpSetterSites.contains (c, "setStatus", "status")) &&
     pysnmpSetterSites.contains ("objecttype|objectidentity", "setMaxAccess", "maxaccess")) = true := by decide +kernel

end Pysmi.Generated.Text
