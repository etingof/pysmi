import Pysmi.Lemmas.Store
import Pysmi.Props.C09
import Pysmi.Model.Borrower
/-!
# C19 — borrowing happens only for modules that cannot be compiled, and verbatim

For every list of borrowers, every flavour/outcome assignment and every option set:
* `C19_borrowLoop_first`: borrowers are tried in the order added, up to and including the first
  that delivers; the delivery used is that borrower's, unchanged;
* `C19_only_failed`: a borrower is asked about `n` only if `n` is in the failed set after code
  generation, and (with `noDeps`) only if `n` was explicitly requested or comes from a
  requested file;
* `C19_requested_eligible`: an explicitly requested failed module is always offered;
* `C19_never_replaces`: the borrowing step leaves `built` and the status map alone (with
  `C19_only_failed`: a module outside the failed set is never the subject of a borrower call);
* `C19_verbatim_borrow`, `C19_verbatim_need`: the record that reaches `built` — and hence, by `C09_store_calls`, the writer —
  is exactly the borrower's text, status `borrowed`, and the module leaves the failed set.
-/
namespace Pysmi.Compile
open Pysmi

/-- **C19_borrowLoop_first**: result and calls of the borrower loop in closed form. -/
theorem C19_borrowLoop_first (n : Name) (g : Bool) (bs : List (Name → Bool → BorrowAns)) (i : Nat) :
    let k := bs.findIdx (delivers n g)
    (borrowLoop n g bs i).2 = (List.range (min (k + 1) bs.length)).map (fun j => Call.borrow (i + j) n g) ∧
    (borrowLoop n g bs i).1 =
      (match bs[k]? with
       | some b => (match b n g with | .ok a m d => some (a, m, d) | .error => none)
       | none => none) := by
  refine ⟨borrowLoop_calls n g bs i, ?_⟩
  induction bs generalizing i with
  | nil => rfl
  | cons b rest ih =>
    rw [borrowLoop, List.findIdx_cons]
    unfold delivers
    cases hb : b n g with
    | ok a m d => simp only [cond_true, List.getElem?_cons_zero, hb]
    | error => exact ih (i + 1)

/-- **C19_only_failed**: the calls of the borrowing phase are borrower calls about names that are
in the failed set when the phase starts (i.e. after code generation), each eligible. -/
theorem C19_only_failed (c : Cfg) (req : List Name) (o : Opts) (s : St) :
    ∃ t, (phaseBorrow c req o s).trace = s.trace ++ t ∧
      ∀ x ∈ t, ∃ i n, x = Call.borrow i n o.genTexts ∧ n ∈ s.failed.keys ∧
        (o.noDeps = false ∨ n ∈ s.canonical ∨ n ∈ req) :=
  (foldl_induction (l := s.failed.keys)
    (P := fun s' : St => s'.canonical = s.canonical ∧ Adds (fun x => ∃ i n, x = Call.borrow i n o.genTexts ∧
      n ∈ s.failed.keys ∧ (o.noDeps = false ∨ n ∈ s.canonical ∨ n ∈ req)) s s')
    (fun s' k hk ⟨hc, h⟩ => ⟨(borrowStep_canonical c req o s' k).trans hc,
      h.trans ((borrowStep_calls c req o s' k).mono fun _ ⟨⟨i, e⟩, hel⟩ => ⟨i, k, e, hk, hc ▸ hel⟩)⟩)
    ⟨rfl, .refl⟩).2

/-- **C19_requested_eligible**: for an explicitly requested name the borrowers are consulted
whatever `noDeps` says. -/
theorem C19_requested_eligible (c : Cfg) (req : List Name) (o : Opts) (s : St) (n : Name) (hr : n ∈ req) :
    (borrowStep c req o s n).trace = s.trace ++ (borrowLoop n o.genTexts c.borrowers 0).2 := by
  rw [borrowStep_eq, if_pos (show Eligible req o s n from fun h => h.2.2 hr)]
  split <;> rfl

/-- **C19_never_replaces** (step level): the borrowing step leaves `built` and the status map alone. -/
theorem C19_never_replaces (c : Cfg) (req : List Name) (o : Opts) (s : St) (n : Name) :
    (borrowStep c req o s n).built = s.built ∧ (borrowStep c req o s n).processed = s.processed := by
  rw [borrowStep_eq]; split
  · split <;> exact ⟨rfl, rfl⟩
  · exact ⟨rfl, rfl⟩

/-- **C19_verbatim_borrow**: a delivery is recorded unchanged and the module leaves the failed set … -/
theorem C19_verbatim_borrow (c : Cfg) (req : List Name) (o : Opts) (s : St) (n : Name) (r : Rec)
    (hel : ¬ (o.noDeps = true ∧ n ∉ s.canonical ∧ n ∉ req))
    (hb : (borrowLoop n o.genTexts c.borrowers 0).1 = some r) :
    (borrowStep c req o s n).borrowedM.get? n = some r ∧
    (borrowStep c req o s n).failed = s.failed.del n := by
  rw [borrowStep_eq, if_pos (show Eligible req o s n from hel), hb]
  exact ⟨AList.get?_set_eq, rfl⟩

/-- … and phase 5 moves exactly that record into `built` with status `borrowed` (unless a
searcher reports an up-to-date copy, in which case it is `untouched` and not written). -/
theorem C19_verbatim_need (c : Cfg) (req : List Name) (o : Opts) (s : St) (n alias : Name) (mtime : Int)
    (data : Nat) (hb : s.borrowedM.get? n = some (alias, mtime, data))
    (hel : ¬ (o.noDeps = true ∧ n ∉ s.canonical ∧ n ∉ req)) :
    ((searchLoop n mtime o.rebuild c.searchers 0).1 = false →
      (needBorrowStep c req o s n).built.get? n = some (alias, mtime, data) ∧
      (needBorrowStep c req o s n).processed.get? n = some { st := .borrowed, alias := some alias }) ∧
    ((searchLoop n mtime o.rebuild c.searchers 0).1 = true →
      (needBorrowStep c req o s n).built = s.built ∧
      (needBorrowStep c req o s n).processed.get? n = some { st := .untouched }) := by
  simp only [needBorrowStep_eq, hb]
  refine ⟨fun h => ?_, fun h => ?_⟩
  · simp [needBorrowDrops, h, show Eligible req o s n from hel, AList.get?_set_eq]
  · simp [needBorrowDrops, h, AList.get?_set_eq]

/-! ### non-vacuity: flavour mismatch skipped, first matching borrower wins -/
example : borrowLoop 3 true
    [fun _ g => if g = false then .ok 3 5 2000 else .error,     -- without-texts flavour: never delivers
     fun _ _ => .ok 3 5 2001, fun _ _ => .ok 3 5 2002] 0 =
    (some (3, 5, 2001), [.borrow 0 3 true, .borrow 1 3 true]) := by decide

end Pysmi.Compile

namespace Pysmi.Borrower

theorem getData_eq_ok {α} {flavour : Bool} {ownExts : List String} {reader : List String → Option α}
    {g : OptVal} {optExts : Option (List String)} {a : α} :
    getData flavour ownExts reader g optExts = .ok a ↔
      truthy g = flavour ∧ reader (optExts.getD ownExts) = some a := by
  unfold getData
  by_cases hf : truthy g = flavour
  · cases reader (optExts.getD ownExts) <;> simp [hf]
  · simp [hf]

/-- **C19_flavour**: a borrower delivers only when the request's with-texts flag (absent, None and
False all mean "without texts") equals its own flavour, and what it delivers is exactly what its
reader holds under one of the borrower's extensions. -/
theorem C19_flavour {α} (flavour : Bool) (ownExts : List String) (reader : List String → Option α)
    (g : OptVal) (optExts : Option (List String)) (a : α)
    (h : getData flavour ownExts reader g optExts = .ok a) :
    truthy g = flavour ∧ reader (optExts.getD ownExts) = some a := getData_eq_ok.mp h

/-- … and a matching borrower whose reader holds the file does deliver it. -/
theorem C19_flavour_complete {α} (flavour : Bool) (ownExts : List String) (reader : List String → Option α)
    (g : OptVal) (optExts : Option (List String)) (a : α)
    (hf : truthy g = flavour) (hr : reader (optExts.getD ownExts) = some a) :
    getData flavour ownExts reader g optExts = .ok a := getData_eq_ok.mpr ⟨hf, hr⟩

example : getData true [".py"] (fun _ => some 7) .none none = (.notFound : Ans Nat) := by decide
example : getData false [".py"] (fun _ => some 7) .absent none = .ok 7 := by decide

end Pysmi.Borrower
