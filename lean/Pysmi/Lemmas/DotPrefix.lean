import Pysmi.Model.Index
/-! `oid == p or oid.startswith(p + '.')` is exactly the component-wise prefix relation
on `split('.')`, for *all* strings (no well-formedness needed). -/
namespace Pysmi.Index

theorem startsWith_iff : ∀ (s t : Str), startsWith s t = true ↔ t <+: s
  | s, [] => by cases s <;> simp [startsWith]
  | [], _ :: _ => by simp [startsWith]
  | c :: s, d :: t => by
    simp only [startsWith, Bool.and_eq_true, beq_iff_eq, List.cons_prefix_cons, startsWith_iff s t, eq_comm (a := c)]

theorem dotPrefix_eq_true {p o : Str} : dotPrefix p o = true ↔ o = p ∨ p ++ ['.'] <+: o := by
  simp [dotPrefix, startsWith_iff]

/-- joining the words of `s.split('.')` with dots gives `s` back -/
theorem join_splitDot (s : Str) : (splitDotAux s).1 ++ (splitDotAux s).2.flatMap ('.' :: ·) = s := by
  induction s with
  | nil => rfl
  | cons c s ih => by_cases h : c = '.' <;> simp [splitDotAux, h, ih]

theorem splitDot_append_dot (a b : Str) : splitDot (a ++ '.' :: b) = splitDot a ++ splitDot b := by
  induction a with
  | nil => simp [splitDot, splitDotAux]
  | cons c a ih => by_cases h : c = '.' <;> simp_all [splitDot, splitDotAux]

theorem dotPrefix_iff (p o : Str) : dotPrefix p o = true ↔ splitDot p <+: splitDot o := by
  rw [dotPrefix_eq_true]
  constructor
  · rintro (rfl | ⟨r, rfl⟩)
    · exact List.prefix_refl _
    · rw [List.append_assoc, List.singleton_append, splitDot_append_dot]; exact List.prefix_append _ _
  · -- `o` is its words joined: those of `p`, then the rest, each with a dot in front
    intro h
    obtain ⟨h1, t, h2⟩ := List.cons_prefix_cons.mp h
    have ho := join_splitDot o
    rw [← h1, ← h2, List.flatMap_append, ← List.append_assoc, join_splitDot p] at ho
    cases t with
    | nil => exact .inl (by simpa using ho.symm)
    | cons x t => exact .inr ⟨x ++ t.flatMap ('.' :: ·), by simpa using ho⟩

end Pysmi.Index
