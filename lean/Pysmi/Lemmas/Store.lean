import Pysmi.Lemmas.Compile
namespace Pysmi.Compile
open Pysmi

theorem run_eq {c : Cfg} {req : List Name} {o : Opts} {fuel : Nat} {s : St} (hs : beforeGate c req o fuel = some s) :
    run c req o fuel = some ⟨(afterGate c o s).processed, (afterGate c o s).trace⟩ := by
  simp [run, hs]

/-- a run taken apart: `s0` is where discovery ends, `s` the state at the gate -/
theorem run_out {c : Cfg} {req : List Name} {o : Opts} {fuel : Nat} {out : Out} (h : run c req o fuel = some out) :
    ∃ s0 s, discover c req fuel { queue := req } = some s0 ∧
      phaseNeedBorrow c req o (phaseBorrow c req o (phaseGen c o (phaseNeed c o s0))) = s ∧
      out.processed = (afterGate c o s).processed ∧ out.trace = (afterGate c o s).trace := by
  obtain ⟨s, hs, rfl⟩ := Option.map_eq_some_iff.mp h
  obtain ⟨s0, hd, hs0⟩ := Option.map_eq_some_iff.mp hs
  exact ⟨s0, s, hd, hs0, rfl, rfl⟩

section
variable {c : Cfg} {o : Opts} {s : St}

theorem afterGate_stop (hf : s.failed.isEmpty = false) (hi : o.ignoreErrors = false) :
    afterGate c o s = markUnprocessed s := by
  simp [afterGate, hf, hi]

theorem afterGate_pass (hpass : s.failed.isEmpty = true ∨ o.ignoreErrors = true) : afterGate c o s = phaseStore c o s := by
  unfold afterGate
  rcases hpass with h | h <;> simp [h]

theorem afterGate_induction {P : St → Prop} (mark : ∀ s, P s → P (markUnprocessed s))
    (store : ∀ s k, P s → P (storeStep c o s k)) (h : P s) : P (afterGate c o s) := by
  unfold afterGate
  split
  · exact mark s h
  · exact foldl_induction (fun s k _ => store s k) h

end

/-- the writer calls phase 6 issues for a `built` dict -/
def putCalls (o : Opts) (l : AList Name Rec) : List Call :=
  if o.writeMibs then l.map (fun e => Call.put e.1 e.2.2.2 o.dryRun) else []

theorem putCalls_cons (o : Opts) (n : Name) (r : Rec) (l : AList Name Rec) :
    putCalls o ((n, r) :: l) = (if o.writeMibs then [Call.put n r.2.2 o.dryRun] else []) ++ putCalls o l := by
  unfold putCalls; split <;> simp

/-- status the store step leaves for module `n` built as `(alias, _, data)` -/
def storedEntry (c : Cfg) (o : Opts) (old : Option Entry) (n : Name) (alias : Name) (data : Nat) : Option Entry :=
  if stored c o n data then
    match old with
    | some e => some e
    | none => some { st := .compiled, alias := some alias }
  else some { st := .failed, err := some (.call (.put n data o.dryRun)) }

theorem storeStep_get_ne (c : Cfg) (o : Opts) (s : St) {k n : Name} (h : k ≠ n) :
    (storeStep c o s k).processed.get? n = s.processed.get? n :=
  congrArg View.status (storeStep_view c o s h)

theorem storeStep_head (c : Cfg) (o : Opts) {s : St} {n : Name} {r : Rec} {l : AList Name Rec}
    (hb : s.built = (n, r) :: l) :
    (storeStep c o s n).built = l ∧
    (storeStep c o s n).trace = s.trace ++ (if o.writeMibs then [Call.put n r.2.2 o.dryRun] else []) ∧
    (storeStep c o s n).processed.get? n = storedEntry c o (s.processed.get? n) n r.1 r.2.2 := by
  obtain ⟨alias, mtime, data⟩ := r
  rw [storeStep_eq, show s.built.get? n = some (alias, mtime, data) by simp [hb, AList.get?]]
  refine ⟨by simp [hb, AList.del], rfl, ?_⟩
  simp only [storedEntry]
  split
  · cases hp : s.processed.get? n <;> simp [AList.contains, hp, AList.get?_set_eq]
  · exact AList.get?_set_eq

/-- **phase 6 hands every built module to the writer exactly once, in order, with its text** -/
theorem phaseStore_trace (c : Cfg) (o : Opts) (s : St) : (phaseStore c o s).trace = s.trace ++ putCalls o s.built := by
  unfold phaseStore
  generalize hb : s.built = l
  induction l generalizing s with
  | nil => simp [putCalls]
  | cons e l ih =>
    obtain ⟨n, r⟩ := e
    obtain ⟨h1, h2, _⟩ := storeStep_head c o hb
    simp only [AList.keys_cons, List.foldl_cons]
    rw [ih _ h1, h2, putCalls_cons, List.append_assoc]

theorem phaseStore_status (c : Cfg) (o : Opts) (s : St) (hn : s.built.keys.Nodup) {n alias : Name} {mtime : Int} {data : Nat}
    (hm : (n, alias, mtime, data) ∈ s.built) :
    (phaseStore c o s).processed.get? n = storedEntry c o (s.processed.get? n) n alias data := by
  unfold phaseStore
  generalize hb : s.built = l at hn hm
  induction l generalizing s with
  | nil => cases hm
  | cons e l ih =>
    obtain ⟨k, r⟩ := e
    obtain ⟨h1, _, h3⟩ := storeStep_head c o hb
    simp only [AList.keys_cons, List.nodup_cons] at hn
    simp only [AList.keys_cons, List.foldl_cons]
    rcases List.mem_cons.mp hm with h | h
    · cases h
      -- later steps are for other names
      rw [← h3]
      exact foldl_induction (P := fun s' => s'.processed.get? n = _)
        (fun s' k hk e => (storeStep_get_ne c o s' fun e' : k = n => hn.1 (e' ▸ hk)).trans e) rfl
    · have hkn : k ≠ n := fun hk => hn.1 (hk ▸ List.mem_map_of_mem (f := (·.1)) h)
      rw [ih _ h1 hn.2 h, storeStep_get_ne c o s hkn]

theorem markUnprocessed_get (s : St) (n : Name) (h : n ∈ s.built.keys) :
    (markUnprocessed s).processed.get? n = some { st := .unprocessed } := by
  simp [markUnprocessed, AList.get?_foldl_set, h]

end Pysmi.Compile
