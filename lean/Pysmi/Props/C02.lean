import Pysmi.Props.C11
/-!
# C02 — the syntax tree is a faithful, layout-independent image of the MIB text

Parser half: `C02_lr_sound` (in `Props/C02LR.lean`).  Lexer half, here:

* `scan` is the token list of a text as a plain recursive function (`lexLoop_eq_scan` ties it to the
  accumulator loop the driver runs);
* `SkipsTo`: the lexer gets from one text and state to another without a token, in a number of steps that depends on neither
  fuel nor line; what follows are instances of it, and `SkipsTo.strip_eq` turns two of them into equal token lists;
* `C02_blank_skipped`, `C02_comment_skipped`: blanks and comments produce no token;
* `C02_separator_irrelevant`: any two separators (runs of spaces, tabs, LF, CRLF and `--` comments ended by LF: `Skips`)
  in front of the same remaining text give the same tokens up to line numbers — for separators of any length;
* `C02_exports_opaque`, `C02_choice_opaque`: the token stream does not depend on the body of an
  EXPORTS … ; or CHOICE … } block, whatever characters (other than the terminator) it contains;
* `C02_number_value`: a decimal number token carries the integer its digits denote, for every length;
* `C02_list_append_in_order`: the list-building actions append items in source order.
-/
namespace Pysmi.Lexer

/-- token list of `s` from lexer state `st` at line `line` -/
def scan (cfg : Cfg) : Nat → LexState → Nat → Str → Except LexErr (List Tok)
  | 0, _, _, _ => .error .outOfFuel
  | _ + 1, _, _, [] => .ok []
  | fuel + 1, st, line, c :: cs =>
    match step cfg st line (c :: cs) with
    | .err k => .error (.err k line)
    | .tok t n next lines => (scan cfg fuel next (line + lines) ((c :: cs).drop (max n 1))).map (t :: ·)
    | .skip n next lines => scan cfg fuel next (line + lines) ((c :: cs).drop (max n 1))

theorem scan_cons (cfg : Cfg) (fuel : Nat) (st : LexState) (line : Nat) (c : Char) (cs : Str) :
    scan cfg (fuel + 1) st line (c :: cs) =
      match step cfg st line (c :: cs) with
      | .err k => .error (.err k line)
      | .tok t n next lines => (scan cfg fuel next (line + lines) ((c :: cs).drop (max n 1))).map (t :: ·)
      | .skip n next lines => scan cfg fuel next (line + lines) ((c :: cs).drop (max n 1)) := rfl

theorem scan_skip {cfg : Cfg} {st next : LexState} {fuel line n lines : Nat} {c : Char} {cs : Str}
    (h : step cfg st line (c :: cs) = .skip n next lines) :
    scan cfg (fuel + 1) st line (c :: cs) = scan cfg fuel next (line + lines) ((c :: cs).drop (max n 1)) := by
  rw [scan_cons, h]

theorem lexLoop_eq_scan (cfg : Cfg) : ∀ (fuel : Nat) {st : LexState} {line : Nat} {s : Str} {acc : List Tok},
    (lexLoop cfg fuel st line s acc).map (·.1) = (scan cfg fuel st line s).map (acc.reverse ++ ·)
  | 0, _, _, _, _ => rfl
  | _ + 1, _, _, [], _ => by simp [lexLoop, scan, Except.map]
  | fuel + 1, st, line, c :: cs, acc => by
    rw [lexLoop_cons, scan_cons]
    cases step cfg st line (c :: cs) with
    | err k => rfl
    | tok t n next lines =>
      simp only
      rw [lexLoop_eq_scan cfg fuel]
      cases scan cfg fuel next (line + lines) ((c :: cs).drop (max n 1)) <;> simp [Except.map]
    | skip n next lines => exact lexLoop_eq_scan cfg fuel

theorem lexAll_eq_scan (cfg : Cfg) (s : Str) : lexAll cfg s = scan cfg (s.length + 1) .initial 1 s := by
  unfold lexAll
  rw [lexLoop_eq_scan]
  cases scan cfg (s.length + 1) .initial 1 s <;> rfl

/-- forget line numbers -/
def strip (r : Except LexErr (List Tok)) : Except ErrKind (List (String × TokVal)) :=
  match r with
  | .ok ts => .ok (ts.map (fun t => (t.ty, t.val)))
  | .error (.err k _) => .error k
  | .error .outOfFuel => .error .plyLexError     -- never reached with enough fuel (C11_lexer_terminates)

theorem strip_map_cons (t : Tok) (r : Except LexErr (List Tok)) :
    strip (r.map (t :: ·)) = (strip r).map ((t.ty, t.val) :: ·) := by
  cases r with
  | ok ts => rfl
  | error e => cases e <;> rfl

theorem scan_line_indep (cfg : Cfg) : ∀ (fuel : Nat) (st : LexState) (l1 l2 : Nat) (s : Str),
    strip (scan cfg fuel st l1 s) = strip (scan cfg fuel st l2 s)
  | 0, _, _, _, _ => rfl
  | _ + 1, _, _, _, [] => rfl
  | fuel + 1, st, l1, l2, c :: cs => by
    rw [scan_cons, scan_cons, ← step_stamp cfg st l1 l2]
    cases step cfg st l1 (c :: cs) with
    | err k => rfl
    | tok t n next lines =>
      simp only [Step.stamp, strip_map_cons]
      rw [scan_line_indep cfg fuel next (l1 + lines) (l2 + lines)]
    | skip n next lines => exact scan_line_indep cfg fuel next _ _ _

/-- `SkipsTo cfg st s d st' r`: from state `st` the lexer skips `s` down to `r`, where it is in state `st'`, without a token,
in a number of steps that depends on neither fuel nor line, over `d` line ends. -/
def SkipsTo (cfg : Cfg) (st : LexState) (s : Str) (d : Nat) (st' : LexState) (r : Str) : Prop :=
  ∃ k, ∀ fuel line, scan cfg (fuel + k) st line s = scan cfg fuel st' (line + d) r

theorem SkipsTo.refl (cfg : Cfg) (st : LexState) (s : Str) : SkipsTo cfg st s 0 st s := ⟨0, fun _ _ => rfl⟩

theorem SkipsTo.step {cfg : Cfg} {st next st' : LexState} {c : Char} {cs r : Str} {n lines d : Nat}
    (h : ∀ line, step cfg st line (c :: cs) = .skip n next lines)
    (h' : SkipsTo cfg next ((c :: cs).drop n) d st' r) : SkipsTo cfg st (c :: cs) (d + lines) st' r := by
  obtain ⟨k, hk⟩ := h'
  refine ⟨k + 1, fun fuel line => ?_⟩
  rw [← Nat.add_assoc, scan_skip (h line), Nat.max_eq_left (step_skip_consumes (h line)).pos, hk, Nat.add_assoc, Nat.add_comm lines]

theorem SkipsTo.trans {cfg : Cfg} {st st' st'' : LexState} {s r r' : Str} {d d' : Nat}
    (h : SkipsTo cfg st s d st' r) (h' : SkipsTo cfg st' r d' st'' r') : SkipsTo cfg st s (d' + d) st'' r' := by
  obtain ⟨k, hk⟩ := h
  obtain ⟨k', hk'⟩ := h'
  exact ⟨k' + k, fun fuel line => by rw [← Nat.add_assoc, hk, hk', Nat.add_assoc, Nat.add_comm d]⟩

/-- texts skipped down to the same point give the same tokens (types and values) -/
theorem SkipsTo.strip_eq {cfg : Cfg} {st st' : LexState} {s1 s2 r : Str} {d1 d2 : Nat}
    (h1 : SkipsTo cfg st s1 d1 st' r) (h2 : SkipsTo cfg st s2 d2 st' r) :
    ∃ k1 k2, ∀ fuel l1 l2, strip (scan cfg (fuel + k1) st l1 s1) = strip (scan cfg (fuel + k2) st l2 s2) := by
  obtain ⟨k1, hk1⟩ := h1
  obtain ⟨k2, hk2⟩ := h2
  exact ⟨k1, k2, fun fuel l1 l2 => by rw [hk1, hk2]; exact scan_line_indep cfg fuel st' _ _ r⟩

theorem step_space (cfg : Cfg) (line : Nat) (rest : Str) : step cfg .initial line (' ' :: rest) = .skip 1 .initial 0 := rfl
theorem step_tab (cfg : Cfg) (line : Nat) (rest : Str) : step cfg .initial line ('\t' :: rest) = .skip 1 .initial 0 := rfl
theorem step_lf (cfg : Cfg) (line : Nat) (rest : Str) : step cfg .initial line ('\n' :: rest) = .skip 1 .initial 1 := rfl
theorem step_crlf (cfg : Cfg) (line : Nat) (rest : Str) : step cfg .initial line ('\r' :: '\n' :: rest) = .skip 2 .initial 1 := rfl

/-- **C02_blank_skipped**: a blank in front of a text produces no token; only a line end moves the line counter. -/
theorem C02_blank_skipped (cfg : Cfg) (fuel line : Nat) (rest : Str) :
    scan cfg (fuel + 1) .initial line (' ' :: rest) = scan cfg fuel .initial line rest ∧
    scan cfg (fuel + 1) .initial line ('\t' :: rest) = scan cfg fuel .initial line rest ∧
    scan cfg (fuel + 1) .initial line ('\n' :: rest) = scan cfg fuel .initial (line + 1) rest ∧
    scan cfg (fuel + 1) .initial line ('\r' :: '\n' :: rest) = scan cfg fuel .initial (line + 1) rest :=
  ⟨scan_skip (step_space cfg line rest), scan_skip (step_tab cfg line rest),
    scan_skip (step_lf cfg line rest), scan_skip (step_crlf cfg line rest)⟩

theorem step_comment_start (cfg : Cfg) (line : Nat) (rest : Str) :
    step cfg .initial line ('-' :: '-' :: rest) = .skip 2 .comment 0 := by
  simp [step, newlineLen, startsWith]

def noEol (body : Str) : Prop := ∀ c ∈ body, c ≠ '\r' ∧ c ≠ '\n'

theorem spanLen_append_stop {p : Char → Bool} (body : Str) {c : Char} {rest : Str} (hb : ∀ x ∈ body, p x = true)
    (hc : p c = false) : spanLen p (body ++ c :: rest) = body.length := by
  induction body with
  | nil => simp [spanLen, hc]
  | cons b bs ih =>
    simp only [List.cons_append, spanLen, hb b (by simp), if_true, List.length_cons]
    rw [ih (fun x hx => hb x (by simp [hx]))]; omega

theorem drop_body (b : Char) (bs r : Str) : (b :: (bs ++ r)).drop (bs.length + 1) = r := by simp

theorem scan_comment_body (cfg : Cfg) {body : Str} (rest : Str) (hb : noEol body) :
    SkipsTo cfg .comment (body ++ '\n' :: rest) 1 .initial rest := by
  have hnl : SkipsTo cfg .comment ('\n' :: rest) 1 .initial rest :=
    .step (n := 1) (lines := 1) (fun _ => rfl) (.refl ..)
  cases body with
  | nil => exact hnl
  | cons b bs =>
    rw [List.cons_append]
    have hspan : spanLen (fun c => c != '\r' && c != '\n') (b :: (bs ++ '\n' :: rest)) = bs.length + 1 :=
      spanLen_append_stop (b :: bs) (fun x hx => by simp [hb x hx]) (by simp)
    have hstep (line : Nat) : step cfg .comment line (b :: (bs ++ '\n' :: rest)) = .skip (bs.length + 1) .comment 0 := by
      simp only [step, newlineLen_eq_none.mpr (hb b (by simp)), hspan]
    exact .step hstep (by rwa [drop_body])

/-- **C02_comment_skipped**: `-- … <LF>` in front of a text produces no token and advances the line by one. -/
theorem C02_comment_skipped (cfg : Cfg) (body rest : Str) (hb : noEol body) :
    ∃ k, ∀ fuel line, scan cfg (fuel + k) .initial line ('-' :: '-' :: (body ++ '\n' :: rest)) =
      scan cfg fuel .initial (line + 1) rest :=
  SkipsTo.step (step_comment_start cfg · _) (scan_comment_body cfg rest hb)

/-- `Skips s n r`: `s` is a separator (a run of blanks and comments) followed by `r`, with `n` line ends -/
inductive Skips : Str → Nat → Str → Prop
  | refl (s : Str) : Skips s 0 s
  | space {s n r} : Skips s n r → Skips (' ' :: s) n r
  | tab {s n r} : Skips s n r → Skips ('\t' :: s) n r
  | lf {s n r} : Skips s n r → Skips ('\n' :: s) (n + 1) r
  | crlf {s n r} : Skips s n r → Skips ('\r' :: '\n' :: s) (n + 1) r
  | comment {s n r} (body : Str) : noEol body → Skips s n r → Skips ('-' :: '-' :: (body ++ '\n' :: s)) (n + 1) r

theorem scan_skips (cfg : Cfg) {s r : Str} {n : Nat} (h : Skips s n r) : SkipsTo cfg .initial s n .initial r := by
  induction h with
  | refl s => exact .refl ..
  | space _ ih => exact .step (step_space cfg · _) ih
  | tab _ ih => exact .step (step_tab cfg · _) ih
  | lf _ ih => exact .step (step_lf cfg · _) ih
  | crlf _ ih => exact .step (step_crlf cfg · _) ih
  | comment body hb _ ih => exact .trans (C02_comment_skipped cfg body _ hb) ih

/-- **C02_separator_irrelevant**: two texts that differ only in the separator in front of the same
remaining text have the same tokens (types and values) — whatever the separators' length, their mix of
spaces, tabs, line ends and comments, and whatever the comments say. -/
theorem C02_separator_irrelevant (cfg : Cfg) (s1 s2 r : Str) (n1 n2 : Nat) (h1 : Skips s1 n1 r) (h2 : Skips s2 n2 r) :
    ∃ k1 k2, ∀ fuel line1 line2,
      strip (scan cfg (fuel + k1) .initial line1 s1) = strip (scan cfg (fuel + k2) .initial line2 s2) :=
  (scan_skips cfg h1).strip_eq (scan_skips cfg h2)

theorem newlineLen_le_of_append (body : Str) {rest : Str} {x : Char} {n : Nat} (hx : x ≠ '\r' ∧ x ≠ '\n')
    (h : newlineLen (body ++ x :: rest) = some n) : n ≤ body.length := by
  cases body with
  | nil => simp [newlineLen, hx] at h
  | cons b bs =>
    simp only [List.cons_append, newlineLen] at h
    split at h
    · split at h <;> cases h
      next hlf =>  -- CR LF: the LF is in the body, since `x` is none
        cases bs with
        | nil => exact absurd (Option.some.inj hlf) hx.2
        | cons _ _ => simp
      next => simp
    · split at h <;> cases h
      simp

/-- A state that skips line ends one at a time and stays (`macro`, `exports`, `choice`), and skips in one step a body
that does not begin with a line end, skips any body in front of its terminator `x :: w`.  `Free` says that a body holds no
terminator. -/
theorem skips_body (cfg : Cfg) (st : LexState) (Free : Str → Prop) (x : Char) (w : Str) (hx : x ≠ '\r' ∧ x ≠ '\n')
    (hfree : ∀ b n, Free b → Free (b.drop n))
    (hnl : ∀ s n line, newlineLen s = some n → step cfg st line s = .skip n st 1)
    (hbody : ∀ b bs, Free (b :: bs) → newlineLen (b :: (bs ++ x :: w)) = none →
      ∃ d, ∀ line, step cfg st line (b :: (bs ++ x :: w)) = .skip (bs.length + 1) st d) :
    ∀ (body : Str), Free body → ∃ d, SkipsTo cfg st (body ++ x :: w) d st (x :: w)
  | [], _ => ⟨0, .refl ..⟩
  | b :: bs, hb => by
    rw [List.cons_append]
    cases h : newlineLen (b :: (bs ++ x :: w)) with
    | some n =>
      have hnle := newlineLen_le_of_append (b :: bs) hx h
      have hn1 := (newlineLen_consumes h).pos  -- for the termination proof
      obtain ⟨d, hd⟩ := skips_body cfg st Free x w hx hfree hnl hbody ((b :: bs).drop n) (hfree _ n hb)
      exact ⟨_, .step (hnl _ n · h) (by rwa [← List.cons_append, List.drop_append_of_le_length hnle])⟩
    | none =>
      obtain ⟨d, hd⟩ := hbody b bs hb h
      exact ⟨_, .step hd (by rw [drop_body]; exact .refl ..)⟩
termination_by body => body.length
decreasing_by simp only [List.length_drop, List.length_cons]; omega

/-- the body of a block ended by `stop` (`;` for EXPORTS, `}` for CHOICE) is skipped whatever it contains:
afterwards the lexer is back in the INITIAL state at the text that follows, only the line counter has moved -/
theorem scan_block (cfg : Cfg) {st : LexState} {stop : Char} (hst : (st = .exports ∧ stop = ';') ∨ (st = .choice ∧ stop = '}'))
    {body : Str} (rest : Str) (hb : ∀ c ∈ body, c ≠ stop) : ∃ d, SkipsTo cfg st (body ++ stop :: rest) d .initial rest := by
  have hend (line : Nat) : step cfg st line (stop :: rest) = .skip 1 .initial 0 := by
    rcases hst with ⟨rfl, rfl⟩ | ⟨rfl, rfl⟩ <;> rfl
  obtain ⟨d, hd⟩ := skips_body cfg st (∀ c ∈ ·, c ≠ stop) stop rest (by rcases hst with ⟨_, rfl⟩ | ⟨_, rfl⟩ <;> decide)
    (fun _ _ h c hc => h c (List.mem_of_mem_drop hc))
    (fun s n line h => by rcases hst with ⟨rfl, _⟩ | ⟨rfl, _⟩ <;> simp only [step, h])
    (fun b bs hb hnl => ⟨countNewlines ((b :: (bs ++ stop :: rest)).take (bs.length + 1)), fun line => by
      have hspan : spanLen (· != stop) (b :: (bs ++ stop :: rest)) = bs.length + 1 :=
        spanLen_append_stop (b :: bs) (fun x hx => by simpa using hb x hx) (by simp)
      rcases hst with ⟨rfl, rfl⟩ | ⟨rfl, rfl⟩ <;> simp only [step, hnl] <;> split <;>
        first | rw [hspan] | (rename_i hh; exact absurd (List.cons.inj hh).1 (hb b (by simp)))⟩)
    body hb
  exact ⟨_, hd.trans (.step hend (.refl ..))⟩

theorem block_opaque (cfg : Cfg) {st : LexState} {stop : Char} (hst : (st = .exports ∧ stop = ';') ∨ (st = .choice ∧ stop = '}'))
    {b1 b2 rest : Str} (h1 : ∀ c ∈ b1, c ≠ stop) (h2 : ∀ c ∈ b2, c ≠ stop) :
    ∃ k1 k2, ∀ fuel l1 l2, strip (scan cfg (fuel + k1) st l1 (b1 ++ stop :: rest)) =
      strip (scan cfg (fuel + k2) st l2 (b2 ++ stop :: rest)) := by
  obtain ⟨_, hk1⟩ := scan_block cfg hst rest h1
  obtain ⟨_, hk2⟩ := scan_block cfg hst rest h2
  exact hk1.strip_eq hk2

/-- **C02_exports_opaque**: inside `EXPORTS … ;` nothing but the terminator matters: any two bodies give
the same tokens for the text that follows. -/
theorem C02_exports_opaque (cfg : Cfg) (b1 b2 rest : Str) (h1 : ∀ c ∈ b1, c ≠ ';') (h2 : ∀ c ∈ b2, c ≠ ';') :
    ∃ k1 k2, ∀ fuel l1 l2, strip (scan cfg (fuel + k1) .exports l1 (b1 ++ ';' :: rest)) =
      strip (scan cfg (fuel + k2) .exports l2 (b2 ++ ';' :: rest)) :=
  block_opaque cfg (.inl ⟨rfl, rfl⟩) h1 h2

/-- **C02_choice_opaque**: the same for `CHOICE { … }`. -/
theorem C02_choice_opaque (cfg : Cfg) (b1 b2 rest : Str) (h1 : ∀ c ∈ b1, c ≠ '}') (h2 : ∀ c ∈ b2, c ≠ '}') :
    ∃ k1 k2, ∀ fuel l1 l2, strip (scan cfg (fuel + k1) .choice l1 (b1 ++ '}' :: rest)) =
      strip (scan cfg (fuel + k2) .choice l2 (b2 ++ '}' :: rest)) :=
  block_opaque cfg (.inr ⟨rfl, rfl⟩) h1 h2

/-- decimal digits of `n`, most significant first -/
def decimal (n : Nat) : Str := (Nat.toDigits 10 n)

/-- **C02_number_value**: the value the lexer computes for a digit string built most-significant-digit
first is the number those digits denote (Horner's rule), for every length. -/
theorem C02_number_value (ds : List Nat) (h : ∀ d ∈ ds, d < 10) :
    parseNat (ds.map (fun d => Char.ofNat (48 + d))) = ds.foldl (fun a d => a * 10 + d) 0 := by
  have hdig : ∀ d, d < 10 → (Char.ofNat (48 + d)).toNat - 48 = d := by decide
  rw [parseNat, List.foldl_map]
  generalize 0 = acc
  induction ds generalizing acc with
  | nil => rfl
  | cons d ds ih =>
    rw [List.foldl_cons, List.foldl_cons, hdig d (h d (by simp))]
    exact ih (fun x hx => h x (by simp [hx])) _

/-! ### non-vacuity -/
example : Skips " \t-- a comment\n\r\n x".toList 2 "x".toList := by
  rw [String.toList_ofList, String.toList_ofList]  -- the characters of the literals: unifying with `toList` of a literal decodes it
  exact .space (.tab (.comment " a comment".toList (by unfold noEol; decide) (.crlf (.space (.refl _)))))

end Pysmi.Lexer

namespace Pysmi.Py

/-- the translated body of the list-building actions (`imports`, `enumItems`, `Objects`, …):
`if n == 4: p[0] = p[1] + [p[3]]  elif n == 2: p[0] = [p[1]]` -/
def listBuilder : List Stmt :=
  [.ite (.eq (.var "n") (.int 4)) [.setP0 (.add (.p 1) (.list [.p 3]))]
    [.ite (.eq (.var "n") (.int 2)) [.setP0 (.list [.p 1])] []]]

/-- **C02_list_append_in_order**: the first item starts the list, every further item is appended at the
end — so the list is in source order whatever its length. -/
theorem C02_list_append_in_order (xs : List PyVal) (sep y : PyVal) :
    runAction listBuilder [y] = .ok (.list [y]) ∧
    runAction listBuilder [.list xs, sep, y] = .ok (.list (xs ++ [y])) :=
  ⟨rfl, rfl⟩

theorem list_builder_fold (y0 : PyVal) (ys : List (PyVal × PyVal)) :
    ys.foldl (fun (acc : Except String PyVal) sy => Except.bind acc (fun a => runAction listBuilder [a, sy.1, sy.2]))
      (runAction listBuilder [y0]) = Except.ok (.list (y0 :: ys.map (·.2))) := by
  rw [(C02_list_append_in_order [] .none y0).1]
  suffices h : ∀ xs : List PyVal,
      ys.foldl (fun (acc : Except String PyVal) sy => Except.bind acc (fun a => runAction listBuilder [a, sy.1, sy.2]))
        (Except.ok (.list xs)) = Except.ok (.list (xs ++ ys.map (·.2))) from h [y0]
  induction ys with
  | nil => intro xs; simp
  | cons sy ys ih =>
    intro xs
    show List.foldl _ (runAction listBuilder [.list xs, sy.1, sy.2]) ys = _
    rw [(C02_list_append_in_order xs sy.1 sy.2).2, ih]; simp

end Pysmi.Py
