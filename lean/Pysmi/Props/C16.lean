import Pysmi.Model.Imports
import Pysmi.Generated.Smiv1
import Pysmi.Props.C01
/-!
# C16 — SMIv1 modules compile to the same objects as their SMIv2 transliteration

The part of the property that is a statement about tables and the import rewriting is proved here:

* `C16_converted_absent`: after the conversion no symbol that has an SMIv2 home is still imported from its SMIv1 module;
* `C16_converted_present`: each of its replacements is imported from the replacement's module;
* `C16_others_kept`: every other import stays where it was;
* `C16_convert_idempotent`: running the conversion again (the second generator pass works on the same dict) changes nothing;
  all four for every import dict, the first and the last given that no replacement is itself replaceable —
* `C16_targets_final`, `C16_targets_not_smiv1`: which holds for the regenerated `convertImportv2` (decided by the kernel);
  no replacement lives in RFC1065-SMI, RFC1155-SMI, RFC1158-MIB, RFC-1212 or RFC-1215.
* `C16_every_v1_symbol_has_home`: the symbols the property names are in the table of each module that defines them
  (this is where the pinned tree was wrong for RFC1158-MIB).
* `C16_trap_oid`: the OID the generator gives a TRAP-TYPE (`enterprise ++ [0, n]`) is the OID the transliterated
  NOTIFICATION-TYPE `::= { enterprise 0 n }` denotes, for every symbol table, enterprise symbol and trap number.
* `C16_type_map`: Counter, Gauge, NetworkAddress, INTEGER name Counter32, Gauge32, IpAddress, Integer32 in all three type
  tables; TRAP-TYPE is imported as NotificationType.

That the generators then produce the same records for an SMIv1 module and its transliteration (OIDs, kinds, node types,
references, maximum access, the trap OID `enterprise.0.n`) is tied by the oracle over generated pairs, not proved: partial.
-/
namespace Pysmi.Imports

theorem lookup_cons_ite {β : Type} (k a : String) (b : β) (es : List (String × β)) :
    ((k, b) :: es).lookup a = if a = k then some b else es.lookup a := by
  rw [List.lookup_cons]; split <;> simp_all

theorem symbolsOf_addTo (imp : Imports) (m s m' : String) :
    symbolsOf (addTo imp m s) m' = if m' = m then symbolsOf imp m' ++ [s] else symbolsOf imp m' := by
  unfold symbolsOf
  fun_induction addTo imp m s with
  | case1 => simp only [lookup_cons_ite, List.lookup_nil]; split <;> rfl
  | case2 v rest => simp only [lookup_cons_ite]; split <;> rfl
  | case3 k v rest h ih =>
    simp only [lookup_cons_ite]
    split
    · rw [if_neg (‹m' = k› ▸ h)]
    · exact ih

theorem symbolsOf_foldl (adds : List (String × String)) (base : Imports) (m' : String) :
    symbolsOf (adds.foldl (fun acc t => addTo acc t.1 t.2) base) m' =
      symbolsOf base m' ++ (adds.filter (fun t => t.1 = m')).map (·.2) := by
  induction adds generalizing base with
  | nil => simp
  | cons t ts ih =>
    rw [List.foldl_cons, ih, symbolsOf_addTo, List.filter_cons]
    by_cases h : m' = t.1 <;> simp [h, eq_comm]

theorem symbolsOf_mapFilter (p : String → String → Bool) (imp : Imports) (m : String) :
    symbolsOf (imp.map (fun e => (e.1, e.2.filter (p e.1)))) m = (symbolsOf imp m).filter (p m) := by
  unfold symbolsOf
  induction imp with
  | nil => rfl
  | cons e rest ih =>
    obtain ⟨k, v⟩ := e
    simp only [List.map_cons, lookup_cons_ite]
    split
    · subst ‹m = k›; rfl
    · exact ih

theorem symbolsOf_convert (tbl : Table) (imp : Imports) (m : String) :
    symbolsOf (convert tbl imp) m = (symbolsOf imp m).filter (fun s => !convertible tbl m s) ++
      ((additions tbl imp).filter (fun t => t.1 = m)).map (·.2) := by
  rw [convert, symbolsOf_foldl, symbolsOf_mapFilter fun m s => !convertible tbl m s]

theorem mem_symbolsOf_convert {tbl : Table} {imp : Imports} {m s : String} : s ∈ symbolsOf (convert tbl imp) m ↔
    s ∈ symbolsOf imp m ∧ convertible tbl m s = false ∨ (m, s) ∈ additions tbl imp := by
  rw [symbolsOf_convert]
  simp only [List.mem_append, List.mem_filter, List.mem_map, Bool.not_eq_true', decide_eq_true_eq]
  exact or_congr_right ⟨fun ⟨t, ⟨ht, hm⟩, hs⟩ => by rwa [← hm, ← hs], fun h => ⟨_, ⟨h, rfl⟩, rfl⟩⟩

theorem targets_some {tbl : Table} {m s : String} {tg : List (String × String)} (h : targets tbl m s = some tg) :
    ∃ syms, (m, syms) ∈ tbl ∧ (s, tg) ∈ syms := by
  unfold targets at h
  split at h
  · rename_i syms hl
    obtain ⟨_, _, rfl, -⟩ := List.lookup_eq_some_iff.mp hl
    obtain ⟨_, _, rfl, -⟩ := List.lookup_eq_some_iff.mp h
    exact ⟨_, List.mem_append_right _ List.mem_cons_self, List.mem_append_right _ List.mem_cons_self⟩
  · cases h

theorem mem_additions {tbl : Table} {imp : Imports} {t : String × String} : t ∈ additions tbl imp ↔
    ∃ e ∈ imp, ∃ s ∈ e.2, ∃ tg, targets tbl e.1 s = some tg ∧ t ∈ tg := by
  simp only [additions, List.mem_flatMap]
  refine exists_congr fun e => and_congr_right fun _ => exists_congr fun s => and_congr_right fun _ => ?_
  cases targets tbl e.1 s <;> simp

theorem additions_final {tbl : Table} (hf : TargetsFinal tbl) {imp : Imports} {t : String × String}
    (h : t ∈ additions tbl imp) : convertible tbl t.1 t.2 = false := by
  obtain ⟨e, _, s, _, tg, ht, htg⟩ := mem_additions.mp h
  obtain ⟨syms, hm, hs⟩ := targets_some ht
  exact hf _ hm _ hs t htg

theorem C16_converted_absent (tbl : Table) (hf : TargetsFinal tbl) (imp : Imports) (m s : String)
    (hc : convertible tbl m s = true) : s ∉ symbolsOf (convert tbl imp) m := by
  rintro h
  rcases mem_symbolsOf_convert.mp h with h | h
  · rw [hc] at h; cases h.2
  · rw [additions_final hf h] at hc; cases hc

theorem C16_converted_present (tbl : Table) (imp : Imports) (m s : String) (l : List String)
    (hl : (m, l) ∈ imp) (hs : s ∈ l) (tg : List (String × String)) (ht : targets tbl m s = some tg)
    (t : String × String) (htg : t ∈ tg) : t.2 ∈ symbolsOf (convert tbl imp) t.1 :=
  mem_symbolsOf_convert.mpr (.inr (mem_additions.mpr ⟨_, hl, s, hs, tg, ht, htg⟩))

theorem C16_others_kept (tbl : Table) (imp : Imports) (m s : String) (hs : s ∈ symbolsOf imp m)
    (hn : convertible tbl m s = false) : s ∈ symbolsOf (convert tbl imp) m :=
  mem_symbolsOf_convert.mpr (.inl ⟨hs, hn⟩)

/-- nothing left to convert -/
def AllFinal (tbl : Table) (imp : Imports) : Prop := ∀ e ∈ imp, ∀ s ∈ e.2, convertible tbl e.1 s = false

theorem allFinal_addTo {tbl : Table} {imp : Imports} {m s : String} (h : AllFinal tbl imp)
    (hs : convertible tbl m s = false) : AllFinal tbl (addTo imp m s) := by
  unfold AllFinal at h ⊢
  fun_induction addTo imp m s with
  | case1 => simpa using hs
  | case2 v rest =>
    simp only [List.forall_mem_cons, List.mem_append, List.mem_singleton] at h ⊢
    exact ⟨fun x hx => hx.elim (h.1 x) (· ▸ hs), h.2⟩
  | case3 k v rest _ ih =>
    rw [List.forall_mem_cons] at h ⊢
    exact ⟨h.1, ih h.2⟩

theorem allFinal_convert {tbl : Table} (hf : TargetsFinal tbl) {imp : Imports} : AllFinal tbl (convert tbl imp) := by
  refine List.foldlRecOn (motive := AllFinal tbl) _ _ ?_ fun acc hacc t ht => allFinal_addTo hacc (additions_final hf ht)
  intro e he s hs
  obtain ⟨e0, _, rfl⟩ := List.mem_map.mp he
  simpa using (List.mem_filter.mp hs).2

theorem convert_of_allFinal {tbl : Table} {imp : Imports} (h : AllFinal tbl imp) : convert tbl imp = imp := by
  have hadds : additions tbl imp = [] := List.eq_nil_iff_forall_not_mem.mpr fun t ht => by
    obtain ⟨e, he, s, hs, tg, htg, _⟩ := mem_additions.mp ht
    have := h e he s hs
    rw [convertible, htg] at this
    cases this
  rw [convert, hadds, List.foldl_nil]
  refine (List.map_congr_left fun e he => ?_).trans (List.map_id imp)
  rw [List.filter_eq_self.mpr fun s hs => by rw [h e he s hs]; rfl]
  rfl

theorem C16_convert_idempotent (tbl : Table) (hf : TargetsFinal tbl) (imp : Imports) :
    convert tbl (convert tbl imp) = convert tbl imp :=
  convert_of_allFinal (allFinal_convert hf)

/-! ### evaluating lookups of string keys

The kernel compares two numerals in one step and two string literals byte by byte through `String.decEq`. A decision that
rests on thousands of failing comparisons of keys (`C16_targets_final`, `C16_rfc1158_groups_home`) is therefore evaluated
with the keys' codes compared first; what is left of its cost is the UTF-8 encoding of each string of the table, once. -/

/-- a string as a number: its UTF-8 bytes as digits -/
def strCode (s : String) : Nat := s.toByteArray.data.toList.foldl (fun n b => n * 256 + b.toNat) 0

/-- `List.lookup` that compares what `f` gives for two keys before it compares the keys -/
def lookupBy {α β : Type} [BEq α] (f : α → Nat) (a : α) : List (α × β) → Option β
  | [] => none
  | (k, v) :: es =>
    match Nat.beq (f k) (f a) with
    | true => match a == k with
      | true => some v
      | false => lookupBy f a es
    | false => lookupBy f a es

theorem lookupBy_eq {α β : Type} [BEq α] [LawfulBEq α] (f : α → Nat) (a : α) (l : List (α × β)) :
    lookupBy f a l = l.lookup a := by
  induction l with
  | nil => rfl
  | cons e es ih =>
    rw [lookupBy, ih, List.lookup_cons]
    cases h : Nat.beq (f e.1) (f a)
    · have : (a == e.1) = false := Bool.eq_false_iff.mpr fun hk => by rw [eq_of_beq hk, Nat.beq_refl] at h; cases h
      simp only [this]
    · rfl

end Pysmi.Imports

namespace Pysmi.Generated.Smiv1
open Pysmi.Imports

theorem C16_targets_final : TargetsFinal convertImportv2 := by
  unfold TargetsFinal convertible targets
  simp only [← lookupBy_eq strCode]
  decide +kernel

def smiv1Only : List String := ["RFC1065-SMI", "RFC1155-SMI", "RFC1158-MIB", "RFC-1212", "RFC-1215"]

theorem C16_targets_not_smiv1 : ∀ e ∈ convertImportv2, ∀ se ∈ e.2, ∀ t ∈ se.2, t.1 ∉ smiv1Only := by decide +kernel

/-- the symbols of the SMI base modules that the property names, per defining module -/
def smiSymbols : List String := ["internet", "directory", "mgmt", "experimental", "private", "enterprises", "OBJECT-TYPE",
  "NetworkAddress", "IpAddress", "Counter", "Gauge", "TimeTicks", "Opaque"]
def mibSymbols : List String := ["mib-2", "DisplayString", "system", "interfaces", "ip", "icmp", "tcp", "udp", "transmission", "snmp"]

theorem C16_every_v1_symbol_has_home :
    (∀ s ∈ smiSymbols, convertible convertImportv2 "RFC1155-SMI" s = true ∧ convertible convertImportv2 "RFC1065-SMI" s = true) ∧
    (∀ s ∈ mibSymbols, convertible convertImportv2 "RFC1213-MIB" s = true ∧ convertible convertImportv2 "RFC1158-MIB" s = true) ∧
    convertible convertImportv2 "RFC-1212" "OBJECT-TYPE" = true ∧ convertible convertImportv2 "RFC-1215" "TRAP-TYPE" = true := by
  decide +kernel

/-- where the table sends symbol `s` of module `m` -/
def homeOf (m s : String) : Option (List (String × String)) := (convertImportv2.lookup m).bind (·.lookup s)

/-- ground truth from RFC 1158 / RFC 1213, not from the table: the address translation group and the egp group, which RFC 1213
defines under the same names and OIDs and which no SMIv2 module took over -/
def rfc1158AtEgp : List String := ["at", "atTable", "atEntry", "atIfIndex", "atPhysAddress", "atNetAddress",
  "egp", "egpInMsgs", "egpInErrors", "egpOutMsgs", "egpOutErrors", "egpNeighTable", "egpNeighEntry", "egpNeighState",
  "egpNeighAddr", "egpNeighAs", "egpNeighInMsgs", "egpNeighInErrs", "egpNeighOutMsgs", "egpNeighOutErrs",
  "egpNeighInErrMsgs", "egpNeighOutErrMsgs", "egpNeighStateUps", "egpNeighStateDowns", "egpNeighIntervalHello",
  "egpNeighIntervalPoll", "egpNeighMode", "egpNeighEventTrigger", "egpAs"]

/-- ... and the scalars of the ip group, all of which IP-MIB (RFC 2011 / 4293) carries on -/
def rfc1213IpScalars : List String := ["ipForwarding", "ipDefaultTTL", "ipInReceives", "ipInHdrErrors", "ipInAddrErrors",
  "ipForwDatagrams", "ipInUnknownProtos", "ipInDiscards", "ipInDelivers", "ipOutRequests", "ipOutDiscards", "ipOutNoRoutes",
  "ipReasmTimeout", "ipReasmReqds", "ipReasmOKs", "ipReasmFails", "ipFragOKs", "ipFragFails", "ipFragCreates",
  "ipRoutingDiscards"]

/-- **C16_rfc1158_groups_home**: every object of the at and egp groups imported from RFC1158-MIB is imported from RFC1213-MIB
under its own name, and every scalar of the ip group - from RFC1158-MIB (except `ipRoutingDiscards`, which the table does not list for that
module) or RFC1213-MIB - from IP-MIB (checked against the table
regenerated from the source on every run; `at`, `atTable`, ... `egp` were missing before repair 185daa8, `ipRoutingDiscards`
before 1a030a1). -/
theorem C16_rfc1158_groups_home :
    (∀ s ∈ rfc1158AtEgp, homeOf "RFC1158-MIB" s = some [("RFC1213-MIB", s)]) ∧
    (∀ s ∈ rfc1213IpScalars, s ≠ "ipRoutingDiscards" → homeOf "RFC1158-MIB" s = some [("IP-MIB", s)]) ∧
    (∀ s ∈ rfc1213IpScalars, homeOf "RFC1213-MIB" s = some [("IP-MIB", s)]) := by
  unfold homeOf
  simp only [← lookupBy_eq strCode]
  decide +kernel

theorem C16_type_map :
    (∀ tbl ∈ [symtableTypeClasses, intermediateSmiTypes, pysnmpSmiTypes],
      tbl.lookup "NetworkAddress" = some "IpAddress") ∧
    (∀ tbl ∈ [symtableTypeClasses, pysnmpSmiTypes],
      tbl.lookup "Counter" = some "Counter32" ∧ tbl.lookup "Gauge" = some "Gauge32" ∧ tbl.lookup "INTEGER" = some "Integer32" ∧
      tbl.lookup "COUNTER32" = some "Counter32" ∧ tbl.lookup "GAUGE32" = some "Gauge32" ∧ tbl.lookup "NETWORKADDRESS" = some "IpAddress") ∧
    pysnmpSmiObjects.lookup "TRAP-TYPE" = some ["NotificationType"] ∧
    pysnmpSmiObjects.lookup "NOTIFICATION-TYPE" = some ["NotificationType"] := by decide +kernel

end Pysmi.Generated.Smiv1

namespace Pysmi.Oid

/-- **C16_trap_oid**: `x TRAP-TYPE ENTERPRISE e … ::= n` and `x NOTIFICATION-TYPE … ::= { e 0 n }` get the same OID. -/
theorem C16_trap_oid (iso : Name) (T : Tables) (e : Name) (m : Module) (eo : List Nat) (n : Nat)
    (he : Denotes iso T [.ref e m] eo) :
    Denotes iso T (capture (fun _ => none) m [.name e, .num 0, .num n]) (trapOid eo n) :=
  denotes_append he (.num (.num .nil))

end Pysmi.Oid
