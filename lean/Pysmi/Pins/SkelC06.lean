import Pysmi.Generated.Skeletons
/-!
# Pins (C06): the control skeletons the hand-written models and oracles were written against

`Generated/Skeletons.lean` is rewritten from the source on every run (calls other than logging, string plumbing and pure
builtins, raises with their exception class, returns, loops, branches, handlers - in source order; for the scripts also the
exit status of every `sys.exit`).  A structural change of one of these methods breaks its pin - which is not by itself a
violation: the check then searches model and code for a failing input and reports what it finds.
(Literals written by harness/tools/repin.py when the models were last brought in line with the source.)
-/
namespace Pysmi.Pins.SkelC06
open Pysmi.Generated.Skeletons

/-- IntermediateCodeGen.genObjects (pysmi/codegen/intermediate.py) -/
theorem pin_genObjects : genObjects = [
    "if", "return:value", "call:self.transOpers", "return:value"] := rfl

/-- IntermediateCodeGen.genTableIndex (pysmi/codegen/intermediate.py) -/
theorem pin_genTableIndex : genTableIndex = [
    "call:self.SMI_TYPES.get", "call:self.transOpers", "return:value", "loop", "if", "call:genFakeSyms",
    "call:fakeStrlist.append", "call:fakeSyms.append", "call:self.transOpers", "call:self._importMap.get",
    "call:idxStrlist.append", "return:value"] := rfl

/-- IntermediateCodeGen.genCompliances (pysmi/codegen/intermediate.py) -/
theorem pin_genCompliances : genCompliances = [
    "loop", "call:self.transOpers", "return:value"] := rfl

/-- IntermediateCodeGen.genObjectType (pysmi/codegen/intermediate.py) -/
theorem pin_genObjectType : genObjectType = [
    "call:self.genLabel", "call:self.transOpers", "call:self.genDefVal", "if", "if", "if", "if", "if", "if", "if",
    "if", "call:self.transOpers", "if", "if", "call:self.regSym", "return:value"] := rfl

end Pysmi.Pins.SkelC06
